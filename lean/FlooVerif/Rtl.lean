/-
  A small statement / expression tree for the `always_comb` blocks of hw/floo_route_select.sv that decide
  where a flit goes, and its evaluation.  The trees themselves are regenerated from the RTL on every run
  (harness/rtl_tie.py → Gen/RtlFacts.lean); Props/HwTie.lean proves that they compute what the hand-written
  hardware semantics of Hw.lean computes.
-/
namespace FlooVerif.Rtl

/-- binary operators of the fragment -/
inductive Op where | add | sub | eq | ne | lt | le | gt | ge | land | lor | shr | shl | mul
  deriving Repr, DecidableEq, Inhabited

/-- expressions over names of type `ν` (an enumeration generated together with the tree: the names the
    block mentions, e.g. `id_in.x`, `channel_i.hdr.dst_id`) -/
inductive RE (ν : Type) where
  | v (name : ν)
  | n (val : Nat)
  | bin (op : Op) (a b : RE ν)
  | slice (a hi lo : RE ν)            -- a[hi:lo]
  | idx (a i : RE ν)                  -- a[i]
  | field (a : RE ν) (f : String)
  | cast (ty : String) (a : RE ν)     -- ty'(a)
  | call (f : String) (args : List (RE ν))
  deriving Repr, Inhabited

inductive RS (ν : Type) where
  | assign (lhs rhs : RE ν)
  | ite (c : RE ν) (t e : List (RS ν))
  deriving Repr, Inhabited

abbrev Env (ν : Type) := ν → Option Int

def Env.set {ν : Type} [DecidableEq ν] (env : Env ν) (k : ν) (v : Option Int) : Env ν :=
  fun s => if s = k then v else env s

@[simp] theorem Env.set_same {ν : Type} [DecidableEq ν] (env : Env ν) (k : ν) (v : Option Int) :
    (env.set k v) k = v := by simp [Env.set]

theorem Env.set_ne {ν : Type} [DecidableEq ν] (env : Env ν) {k s : ν} (v : Option Int) (h : s ≠ k) :
    (env.set k v) s = env s := by simp [Env.set, h]

def b2i (b : Bool) : Int := if b then 1 else 0

@[simp] theorem b2i_ne_zero (b : Bool) : (b2i b != 0) = b := by cases b <;> rfl

@[simp] theorem b2i_eq_one (b : Bool) : b2i b = 1 ↔ b = true := by cases b <;> simp [b2i]

def evalOp (op : Op) (x y : Int) : Option Int :=
  match op with
  | .add => some (x + y)
  | .sub => some (x - y)
  | .mul => some (x * y)
  | .eq => some (b2i (x == y))
  | .ne => some (b2i (x != y))
  | .lt => some (b2i (decide (x < y)))
  | .le => some (b2i (decide (x ≤ y)))
  | .gt => some (b2i (decide (x > y)))
  | .ge => some (b2i (decide (x ≥ y)))
  | .land => some (b2i (x != 0 && y != 0))
  | .lor => some (b2i (x != 0 || y != 0))
  | .shr => if 0 ≤ x ∧ 0 ≤ y then some (x / (2 : Int) ^ y.toNat) else none
  | .shl => if 0 ≤ x ∧ 0 ≤ y then some (x * (2 : Int) ^ y.toNat) else none

/-- values are integers; a comparison yields 1 or 0; what the evaluator does not understand is `none` -/
def eval {ν : Type} (env : Env ν) : RE ν → Option Int
  | .v name => env name
  | .n k => some k
  | .cast _ a => eval env a
  | .bin op a b =>
    match eval env a, eval env b with
    | some x, some y => evalOp op x y
    | _, _ => none
  | .slice a hi lo =>
    match eval env a, eval env hi, eval env lo with
    | some x, some h, some l =>
      if 0 ≤ x ∧ 0 ≤ l ∧ l ≤ h + 1 then some ((x / (2 : Int) ^ l.toNat) % (2 : Int) ^ (h + 1 - l).toNat) else none
    | _, _, _ => none
  | .idx _ _ => none
  | .field _ _ => none
  | .call _ _ => none

mutual
/-- an assignment to a plain name records the value (or that it is not understood); other left-hand
    sides (`route_sel[i]`, a field of an indexed value) do not touch what is tracked -/
def exec {ν : Type} [DecidableEq ν] (env : Env ν) : RS ν → Env ν
  | .assign (.v name) rhs => env.set name (eval env rhs)
  | .assign _ _ => env
  | .ite c t e =>
    match eval env c with
    | some x => if x != 0 then execList env t else execList env e
    | none => fun _ => none            -- an undecidable condition poisons everything
def execList {ν : Type} [DecidableEq ν] (env : Env ν) : List (RS ν) → Env ν
  | [] => env
  | s :: rest => execList (exec env s) rest
end

structure RtlFacts where
  xyRest : List String                 -- the rest of the XY branch (id_in, pass-through of the flit)
  routeSelWidth : List String          -- default of the parameter RouteSelWidth, as tokens
  branches : List (List String)        -- the conditions on RouteAlgo that select the branches, in order
  idBlock : List String                -- gen_id_table
  routerSelect : List String           -- floo_router: instantiation of floo_route_select
  routerMask : List String             -- floo_router: loop-back and Y→X masking of the routes
  compCond : List String               -- floo_route_comp: when the table is used
  compTable : List String              -- floo_route_comp: gen_table_routing
  compRoute : List String              -- floo_route_comp: gen_route
  routerDefaults : List String         -- floo_router: defaults of XYRouteOpt and NoLoopback
  chimneyComp : List (List String)     -- every instantiation of floo_route_comp in the two chimneys (file name first)
  chimneyIds : List (List String)      -- chimneys: every statement about the source/destination identity of a flit
  compAll : List String                -- floo_route_comp, whole
  tbJobs : List (List String)          -- mesh testbenches: Index / JobId / MemBaseAddr and the loops around them
  setPorts : List String               -- floo_pkg::set_ports
  axiRouter : List String              -- floo_axi_router, whole
  nwRouter : List String               -- floo_nw_router, whole
  selectAll : List String              -- floo_route_select, whole
  routerAll : List String              -- floo_router, whole
  axiChimney : List String             -- floo_axi_chimney, whole
  nwChimney : List String              -- floo_nw_chimney, whole
  deriving Inhabited

end FlooVerif.Rtl
