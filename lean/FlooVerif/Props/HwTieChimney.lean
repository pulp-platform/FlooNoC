/-
  Pinned RTL (written by harness/mk_rtl_pins.py from the tree the semantics was read against):
  the two network interfaces (`floo_axi_chimney`, `floo_nw_chimney`), whole: the deciders read `set_ports(cfg, sbr, mgr)`
as "`EnSbrPort` enables the subordinate side, `EnMgrPort` the manager side, per bus" — which field gates which
generate block is in these files.
-/
import FlooVerif.Gen.RtlFacts
namespace FlooVerif.HwTie
open FlooVerif Rtl Gen

def pin_axiChimney_0 : List String := [
    "`include", "\"common_cells/registers.svh\"", "`include", "\"common_cells/assertions.svh\"", "`include",
    "\"axi/typedef.svh\"", "`include", "\"floo_noc/typedef.svh\"", "module", "floo_axi_chimney", "#", "(",
    "parameter", "floo_pkg", "::", "axi_cfg_t", "AxiCfg", "=", "'0", ",", "parameter", "floo_pkg", "::",
    "chimney_cfg_t", "ChimneyCfg", "=", "floo_pkg", "::", "ChimneyDefaultCfg", ",", "parameter", "floo_pkg",
    "::", "route_cfg_t", "RouteCfg", "=", "floo_pkg", "::", "RouteDefaultCfg", ",", "parameter", "bit",
    "AtopSupport", "=", "1'b1", ",", "parameter", "int", "unsigned", "MaxAtomicTxns", "=", "1", ",",
    "parameter", "type", "id_t", "=", "logic", ",", "parameter", "type", "rob_idx_t", "=", "logic", ",",
    "parameter", "type", "route_t", "=", "logic", ",", "parameter", "type", "dst_t", "=", "id_t", ",",
    "parameter", "type", "hdr_t", "=", "logic", ",", "parameter", "type", "sam_rule_t", "=", "logic", ",",
    "parameter", "sam_rule_t", "[", "RouteCfg", ".", "NumSamRules", "-", "1", ":", "0", "]", "Sam", "=",
    "'0", ",", "parameter", "type", "axi_in_req_t", "=", "logic", ",", "parameter", "type", "axi_in_rsp_t",
    "=", "logic", ",", "parameter", "type", "axi_out_req_t", "=", "logic", ",", "parameter", "type",
    "axi_out_rsp_t", "=", "logic", ",", "parameter", "type", "floo_req_t", "=", "logic", ",", "parameter",
    "type", "floo_rsp_t", "=", "logic", ",", "parameter", "type", "sram_cfg_t", "=", "logic", ")", "(",
    "input", "logic", "clk_i", ",", "input", "logic", "rst_ni", ",", "input", "logic", "test_enable_i", ",",
    "input", "sram_cfg_t", "sram_cfg_i", ",", "input", "axi_in_req_t", "axi_in_req_i", ",", "output",
    "axi_in_rsp_t", "axi_in_rsp_o", ",", "output", "axi_out_req_t", "axi_out_req_o", ",", "input",
    "axi_out_rsp_t", "axi_out_rsp_i", ",", "input", "id_t", "id_i", ",", "input", "route_t", "[", "RouteCfg",
    ".", "NumRoutes", "-", "1", ":", "0", "]", "route_table_i", ",", "output", "floo_req_t", "floo_req_o",
    ","
  ]

def pin_axiChimney_1 : List String := [
    "output", "floo_rsp_t", "floo_rsp_o", ",", "input", "floo_req_t", "floo_req_i", ",", "input",
    "floo_rsp_t", "floo_rsp_i", ")", ";", "import", "floo_pkg", "::", "*", ";", "typedef", "logic", "[",
    "AxiCfg", ".", "AddrWidth", "-", "1", ":", "0", "]", "axi_addr_t", ";", "typedef", "logic", "[",
    "AxiCfg", ".", "InIdWidth", "-", "1", ":", "0", "]", "axi_in_id_t", ";", "typedef", "logic", "[",
    "AxiCfg", ".", "OutIdWidth", "-", "1", ":", "0", "]", "axi_out_id_t", ";", "typedef", "logic", "[",
    "AxiCfg", ".", "UserWidth", "-", "1", ":", "0", "]", "axi_user_t", ";", "typedef", "logic", "[",
    "AxiCfg", ".", "DataWidth", "-", "1", ":", "0", "]", "axi_data_t", ";", "typedef", "logic", "[",
    "AxiCfg", ".", "DataWidth", "/", "8", "-", "1", ":", "0", "]", "axi_strb_t", ";", "`AXI_TYPEDEF_ALL_CT",
    "(", "axi", ",", "axi_req_t", ",", "axi_rsp_t", ",", "axi_addr_t", ",", "axi_in_id_t", ",", "axi_data_t",
    ",", "axi_strb_t", ",", "axi_user_t", ")", "`AXI_TYPEDEF_AW_CHAN_T", "(", "axi_out_aw_chan_t", ",",
    "axi_addr_t", ",", "axi_out_id_t", ",", "axi_user_t", ")", "`FLOO_TYPEDEF_AXI_CHAN_ALL", "(", "axi", ",",
    "req", ",", "rsp", ",", "axi", ",", "AxiCfg", ",", "hdr_t", ")", "axi_req_t", "axi_req_in", ";",
    "axi_rsp_t", "axi_rsp_out", ";", "axi_aw_chan_t", "axi_aw_queue", ";", "axi_ar_chan_t", "axi_ar_queue",
    ";", "logic", "axi_aw_queue_valid_out", ",", "axi_aw_queue_ready_in", ";", "logic",
    "axi_ar_queue_valid_out", ",", "axi_ar_queue_ready_in", ";", "floo_req_chan_t", "[", "AxiW", ":",
    "AxiAr", "]", "floo_req_arb_in", ";", "floo_rsp_chan_t", "[", "AxiB", ":", "AxiR", "]",
    "floo_rsp_arb_in", ";", "logic", "[", "AxiW", ":", "AxiAr", "]", "floo_req_arb_req_in", ",",
    "floo_req_arb_gnt_out", ";", "logic", "[", "AxiB", ":", "AxiR", "]", "floo_rsp_arb_req_in", ",",
    "floo_rsp_arb_gnt_out", ";", "floo_req_chan_t", "floo_req_in"
  ]

def pin_axiChimney_2 : List String := [
    ";", "floo_rsp_chan_t", "floo_rsp_in", ";", "logic", "floo_req_in_valid", ",", "floo_rsp_in_valid", ";",
    "logic", "floo_req_out_ready", ",", "floo_rsp_out_ready", ";", "logic", "[", "NumAxiChannels", "-", "1",
    ":", "0", "]", "axi_valid_in", ",", "axi_ready_out", ";", "floo_axi_aw_flit_t", "floo_axi_aw", ";",
    "floo_axi_w_flit_t", "floo_axi_w", ";", "floo_axi_ar_flit_t", "floo_axi_ar", ";", "floo_axi_b_flit_t",
    "floo_axi_b", ";", "floo_axi_r_flit_t", "floo_axi_r", ";", "axi_aw_chan_t", "axi_unpack_aw", ";",
    "axi_ar_chan_t", "axi_unpack_ar", ";", "axi_w_chan_t", "axi_unpack_w", ";", "axi_b_chan_t",
    "axi_unpack_b", ";", "axi_r_chan_t", "axi_unpack_r", ";", "floo_req_generic_flit_t",
    "unpack_req_generic", ";", "floo_rsp_generic_flit_t", "unpack_rsp_generic", ";", "axi_req_t",
    "meta_buf_req_in", ";", "axi_rsp_t", "meta_buf_rsp_out", ";", "axi_out_req_t", "meta_buf_req_out", ";",
    "axi_out_rsp_t", "meta_buf_rsp_in", ";", "typedef", "enum", "logic", "{", "SelAw", ",", "SelW", "}",
    "aw_w_sel_e", ";", "aw_w_sel_e", "aw_w_sel_q", ",", "aw_w_sel_d", ";", "typedef", "struct", "packed",
    "{", "axi_in_id_t", "id", ";", "hdr_t", "hdr", ";", "}", "meta_buf_t", ";", "dst_t", "[",
    "NumAxiChannels", "-", "1", ":", "0", "]", "dst_id", ";", "dst_t", "axi_aw_id_q", ";", "route_t", "[",
    "NumAxiChannels", "-", "1", ":", "0", "]", "route_out", ";", "id_t", "[", "NumAxiChannels", "-", "1",
    ":", "0", "]", "id_out", ";", "meta_buf_t", "aw_out_hdr_in", ",", "aw_out_hdr_out", ";", "meta_buf_t",
    "ar_out_hdr_in", ",", "ar_out_hdr_out", ";", "if", "(", "ChimneyCfg", ".", "EnMgrPort", ")", "begin",
    ":", "gen_sbr_port", "assign", "axi_req_in", "=", "axi_in_req_i", ";", "assign", "axi_in_rsp_o", "=",
    "axi_rsp_out", ";", "if", "(", "ChimneyCfg", ".", "CutAx", ")", "begin", ":", "gen_ax_cuts",
    "spill_register", "#", "(", ".", "T", "(", "axi_aw_chan_t", ")", ")", "i_aw_queue", "(", ".", "clk_i",
    ",", ".", "rst_ni", ",", ".", "data_i", "(", "axi_in_req_i", ".", "aw", ")", ",", ".", "valid_i"
  ]

def pin_axiChimney_3 : List String := [
    "(", "axi_in_req_i", ".", "aw_valid", ")", ",", ".", "ready_o", "(", "axi_rsp_out", ".", "aw_ready", ")",
    ",", ".", "data_o", "(", "axi_aw_queue", ")", ",", ".", "valid_o", "(", "axi_aw_queue_valid_out", ")",
    ",", ".", "ready_i", "(", "axi_aw_queue_ready_in", ")", ")", ";", "spill_register", "#", "(", ".", "T",
    "(", "axi_ar_chan_t", ")", ")", "i_ar_queue", "(", ".", "clk_i", ",", ".", "rst_ni", ",", ".", "data_i",
    "(", "axi_in_req_i", ".", "ar", ")", ",", ".", "valid_i", "(", "axi_in_req_i", ".", "ar_valid", ")", ",",
    ".", "ready_o", "(", "axi_rsp_out", ".", "ar_ready", ")", ",", ".", "data_o", "(", "axi_ar_queue", ")",
    ",", ".", "valid_o", "(", "axi_ar_queue_valid_out", ")", ",", ".", "ready_i", "(",
    "axi_ar_queue_ready_in", ")", ")", ";", "end", "else", "begin", ":", "gen_no_ax_cuts", "assign",
    "axi_aw_queue", "=", "axi_in_req_i", ".", "aw", ";", "assign", "axi_aw_queue_valid_out", "=",
    "axi_in_req_i", ".", "aw_valid", ";", "assign", "axi_rsp_out", ".", "aw_ready", "=",
    "axi_aw_queue_ready_in", ";", "assign", "axi_ar_queue", "=", "axi_in_req_i", ".", "ar", ";", "assign",
    "axi_ar_queue_valid_out", "=", "axi_in_req_i", ".", "ar_valid", ";", "assign", "axi_rsp_out", ".",
    "ar_ready", "=", "axi_ar_queue_ready_in", ";", "end", "end", "else", "begin", ":", "gen_err_slv_port",
    "axi_err_slv", "#", "(", ".", "AxiIdWidth", "(", "AxiCfg", ".", "InIdWidth", ")", ",", ".", "ATOPs", "(",
    "AtopSupport", ")", ",", ".", "axi_req_t", "(", "axi_in_req_t", ")", ",", ".", "axi_resp_t", "(",
    "axi_in_rsp_t", ")", ")", "i_axi_err_slv", "(", ".", "clk_i", "(", "clk_i", ")", ",", ".", "rst_ni", "(",
    "rst_ni", ")", ",", ".", "test_i", "(", "test_enable_i", ")", ",", ".", "slv_req_i", "(", "axi_in_req_i",
    ")"
  ]

def pin_axiChimney_4 : List String := [
    ",", ".", "slv_resp_o", "(", "axi_in_rsp_o", ")", ")", ";", "assign", "axi_req_in", "=", "'0", ";",
    "assign", "axi_aw_queue", "=", "'0", ";", "assign", "axi_ar_queue", "=", "'0", ";", "assign",
    "axi_aw_queue_valid_out", "=", "1'b0", ";", "assign", "axi_ar_queue_valid_out", "=", "1'b0", ";", "end",
    "if", "(", "ChimneyCfg", ".", "CutRsp", ")", "begin", ":", "gen_rsp_cuts", "spill_register", "#", "(",
    ".", "T", "(", "floo_req_chan_t", ")", ")", "i_data_req_arb", "(", ".", "clk_i", "(", "clk_i", ")", ",",
    ".", "rst_ni", "(", "rst_ni", ")", ",", ".", "data_i", "(", "floo_req_i", ".", "req", ")", ",", ".",
    "valid_i", "(", "floo_req_i", ".", "valid", ")", ",", ".", "ready_o", "(", "floo_req_o", ".", "ready",
    ")", ",", ".", "data_o", "(", "floo_req_in", ")", ",", ".", "valid_o", "(", "floo_req_in_valid", ")",
    ",", ".", "ready_i", "(", "floo_req_out_ready", ")", ")", ";", "spill_register", "#", "(", ".", "T", "(",
    "floo_rsp_chan_t", ")", ")", "i_data_rsp_arb", "(", ".", "clk_i", "(", "clk_i", ")", ",", ".", "rst_ni",
    "(", "rst_ni", ")", ",", ".", "data_i", "(", "floo_rsp_i", ".", "rsp", ")", ",", ".", "valid_i", "(",
    "floo_rsp_i", ".", "valid", ")", ",", ".", "ready_o", "(", "floo_rsp_o", ".", "ready", ")", ",", ".",
    "data_o", "(", "floo_rsp_in", ")", ",", ".", "valid_o", "(", "floo_rsp_in_valid", ")", ",", ".",
    "ready_i", "(", "floo_rsp_out_ready", ")", ")", ";", "end", "else", "begin", ":", "gen_no_rsp_cuts",
    "assign", "floo_req_in", "=", "floo_req_i", ".", "req", ";", "assign", "floo_req_in_valid", "=",
    "floo_req_i", ".", "valid", ";", "assign", "floo_req_o", ".", "ready", "=", "floo_req_out_ready"
  ]

def pin_axiChimney_5 : List String := [
    ";", "assign", "floo_rsp_in", "=", "floo_rsp_i", ".", "rsp", ";", "assign", "floo_rsp_in_valid", "=",
    "floo_rsp_i", ".", "valid", ";", "assign", "floo_rsp_o", ".", "ready", "=", "floo_rsp_out_ready", ";",
    "end", "logic", "aw_out_queue_valid", ",", "aw_out_queue_ready", ";", "axi_out_aw_chan_t",
    "axi_aw_queue_out", ";", "spill_register", "#", "(", ".", "T", "(", "axi_out_aw_chan_t", ")", ")",
    "i_aw_out_queue", "(", ".", "clk_i", "(", "clk_i", ")", ",", ".", "rst_ni", "(", "rst_ni", ")", ",", ".",
    "valid_i", "(", "meta_buf_req_out", ".", "aw_valid", ")", ",", ".", "ready_o", "(", "aw_out_queue_ready",
    ")", ",", ".", "data_i", "(", "meta_buf_req_out", ".", "aw", ")", ",", ".", "valid_o", "(",
    "aw_out_queue_valid", ")", ",", ".", "ready_i", "(", "axi_out_rsp_i", ".", "aw_ready", ")", ",", ".",
    "data_o", "(", "axi_aw_queue_out", ")", ")", ";", "always_comb", "begin", "axi_out_req_o", "=",
    "meta_buf_req_out", ";", "axi_out_req_o", ".", "aw_valid", "=", "aw_out_queue_valid", ";",
    "axi_out_req_o", ".", "aw", "=", "axi_aw_queue_out", ";", "meta_buf_rsp_in", "=", "axi_out_rsp_i", ";",
    "meta_buf_rsp_in", ".", "aw_ready", "=", "aw_out_queue_ready", ";", "end", "axi_b_chan_t",
    "axi_b_rob_out", ",", "axi_b_rob_in", ";", "logic", "aw_rob_req_out", ";", "rob_idx_t", "aw_rob_idx_out",
    ";", "logic", "aw_rob_valid_in", ",", "aw_rob_ready_out", ";", "logic", "aw_rob_valid_out", ",",
    "aw_rob_ready_in", ";", "logic", "b_rob_valid_in", ",", "b_rob_ready_out", ";", "logic",
    "b_rob_valid_out", ",", "b_rob_ready_in", ";", "axi_r_chan_t", "axi_r_rob_out", ",", "axi_r_rob_in", ";",
    "logic", "ar_rob_req_out", ";", "rob_idx_t", "ar_rob_idx_out", ";", "logic", "ar_rob_valid_out", ",",
    "ar_rob_ready_in", ";", "logic", "r_rob_valid_in", ",", "r_rob_ready_out", ";", "logic",
    "r_rob_valid_out", ",", "r_rob_ready_in", ";", "if", "(", "AtopSupport", ")", "begin", ":",
    "gen_atop_support", "assign", "aw_rob_valid_in", "=", "axi_aw_queue_valid_out", "&&", "(",
    "axi_aw_queue", ".", "atop", "=="
  ]

def pin_axiChimney_6 : List String := [
    "axi_pkg", "::", "ATOP_NONE", ")", ";", "assign", "axi_aw_queue_ready_in", "=", "(", "axi_aw_queue", ".",
    "atop", "==", "axi_pkg", "::", "ATOP_NONE", ")", "?", "aw_rob_ready_out", ":", "aw_rob_ready_in", ";",
    "end", "else", "begin", ":", "gen_no_atop_support", "assign", "aw_rob_valid_in", "=",
    "axi_aw_queue_valid_out", ";", "assign", "axi_aw_queue_ready_in", "=", "aw_rob_ready_out", ";",
    "`ASSERT", "(", "NoAtopSupport", ",", "!", "(", "axi_aw_queue_valid_out", "&&", "(", "axi_aw_queue", ".",
    "atop", "!=", "axi_pkg", "::", "ATOP_NONE", ")", ")", ")", "end", "floo_rob_wrapper", "#", "(", ".",
    "RoBType", "(", "ChimneyCfg", ".", "BRoBType", ")", ",", ".", "RoBSize", "(", "ChimneyCfg", ".",
    "BRoBSize", ")", ",", ".", "MaxRoTxnsPerId", "(", "ChimneyCfg", ".", "MaxTxnsPerId", ")", ",", ".",
    "OnlyMetaData", "(", "1'b1", ")", ",", ".", "ax_len_t", "(", "axi_pkg", "::", "len_t", ")", ",", ".",
    "ax_id_t", "(", "axi_in_id_t", ")", ",", ".", "rsp_chan_t", "(", "axi_b_chan_t", ")", ",", ".",
    "rsp_meta_t", "(", "axi_b_chan_t", ")", ",", ".", "rob_idx_t", "(", "rob_idx_t", ")", ",", ".", "dest_t",
    "(", "id_t", ")", ",", ".", "sram_cfg_t", "(", "sram_cfg_t", ")", ")", "i_b_rob", "(", ".", "clk_i", ",",
    ".", "rst_ni", ",", ".", "sram_cfg_i", ",", ".", "ax_valid_i", "(", "aw_rob_valid_in", ")", ",", ".",
    "ax_ready_o", "(", "aw_rob_ready_out", ")", ",", ".", "ax_len_i", "(", "axi_aw_queue", ".", "len", ")",
    ",", ".", "ax_id_i", "(", "axi_aw_queue", ".", "id", ")", ",", ".", "ax_dest_i", "(", "id_out", "[",
    "AxiAw", "]", ")", ",", ".", "ax_valid_o", "(", "aw_rob_valid_out", ")", ",", ".", "ax_ready_i", "(",
    "aw_rob_ready_in", ")", ",", ".", "ax_rob_req_o", "(", "aw_rob_req_out", ")", ","
  ]

def pin_axiChimney_7 : List String := [
    ".", "ax_rob_idx_o", "(", "aw_rob_idx_out", ")", ",", ".", "rsp_valid_i", "(", "b_rob_valid_in", ")",
    ",", ".", "rsp_ready_o", "(", "b_rob_ready_out", ")", ",", ".", "rsp_i", "(", "axi_b_rob_in", ")", ",",
    ".", "rsp_rob_req_i", "(", "floo_rsp_in", ".", "axi_b", ".", "hdr", ".", "rob_req", ")", ",", ".",
    "rsp_rob_idx_i", "(", "floo_rsp_in", ".", "axi_b", ".", "hdr", ".", "rob_idx", ")", ",", ".",
    "rsp_last_i", "(", "1'b1", ")", ",", ".", "rsp_valid_o", "(", "b_rob_valid_out", ")", ",", ".",
    "rsp_ready_i", "(", "b_rob_ready_in", ")", ",", ".", "rsp_o", "(", "axi_b_rob_out", ")", ")", ";",
    "typedef", "struct", "packed", "{", "axi_in_id_t", "id", ";", "axi_user_t", "user", ";", "axi_pkg", "::",
    "resp_t", "resp", ";", "logic", "last", ";", "}", "r_rob_meta_t", ";", "floo_rob_wrapper", "#", "(", ".",
    "RoBType", "(", "ChimneyCfg", ".", "RRoBType", ")", ",", ".", "RoBSize", "(", "ChimneyCfg", ".",
    "RRoBSize", ")", ",", ".", "MaxRoTxnsPerId", "(", "ChimneyCfg", ".", "MaxTxnsPerId", ")", ",", ".",
    "OnlyMetaData", "(", "1'b0", ")", ",", ".", "ax_len_t", "(", "axi_pkg", "::", "len_t", ")", ",", ".",
    "ax_id_t", "(", "axi_in_id_t", ")", ",", ".", "rsp_chan_t", "(", "axi_r_chan_t", ")", ",", ".",
    "rsp_data_t", "(", "axi_data_t", ")", ",", ".", "rsp_meta_t", "(", "r_rob_meta_t", ")", ",", ".",
    "rob_idx_t", "(", "rob_idx_t", ")", ",", ".", "dest_t", "(", "id_t", ")", ",", ".", "sram_cfg_t", "(",
    "sram_cfg_t", ")", ")", "i_r_rob", "(", ".", "clk_i", ",", ".", "rst_ni", ",", ".", "sram_cfg_i", ",",
    ".", "ax_valid_i", "(", "axi_ar_queue_valid_out", ")", ",", ".", "ax_ready_o", "(",
    "axi_ar_queue_ready_in", ")", ","
  ]

def pin_axiChimney_8 : List String := [
    ".", "ax_len_i", "(", "axi_ar_queue", ".", "len", ")", ",", ".", "ax_id_i", "(", "axi_ar_queue", ".",
    "id", ")", ",", ".", "ax_dest_i", "(", "id_out", "[", "AxiAr", "]", ")", ",", ".", "ax_valid_o", "(",
    "ar_rob_valid_out", ")", ",", ".", "ax_ready_i", "(", "ar_rob_ready_in", ")", ",", ".", "ax_rob_req_o",
    "(", "ar_rob_req_out", ")", ",", ".", "ax_rob_idx_o", "(", "ar_rob_idx_out", ")", ",", ".",
    "rsp_valid_i", "(", "r_rob_valid_in", ")", ",", ".", "rsp_ready_o", "(", "r_rob_ready_out", ")", ",",
    ".", "rsp_i", "(", "axi_r_rob_in", ")", ",", ".", "rsp_rob_req_i", "(", "floo_rsp_in", ".", "axi_r", ".",
    "hdr", ".", "rob_req", ")", ",", ".", "rsp_rob_idx_i", "(", "floo_rsp_in", ".", "axi_r", ".", "hdr", ".",
    "rob_idx", ")", ",", ".", "rsp_last_i", "(", "floo_rsp_in", ".", "axi_r", ".", "payload", ".", "last",
    ")", ",", ".", "rsp_valid_o", "(", "r_rob_valid_out", ")", ",", ".", "rsp_ready_i", "(",
    "r_rob_ready_in", ")", ",", ".", "rsp_o", "(", "axi_r_rob_out", ")", ")", ";", "axi_addr_t", "[",
    "NumAxiChannels", "-", "1", ":", "0", "]", "axi_req_addr", ";", "id_t", "[", "NumAxiChannels", "-", "1",
    ":", "0", "]", "axi_rsp_src_id", ";", "assign", "axi_req_addr", "[", "AxiAw", "]", "=", "axi_aw_queue",
    ".", "addr", ";", "assign", "axi_req_addr", "[", "AxiAr", "]", "=", "axi_ar_queue", ".", "addr", ";",
    "assign", "axi_rsp_src_id", "[", "AxiB", "]", "=", "aw_out_hdr_out", ".", "hdr", ".", "src_id", ";",
    "assign", "axi_rsp_src_id", "[", "AxiR", "]", "=", "ar_out_hdr_out", ".", "hdr", ".", "src_id", ";",
    "for", "(", "genvar", "ch", "=", "0", ";", "ch", "<", "NumAxiChannels", ";", "ch", "+", "+"
  ]

def pin_axiChimney_9 : List String := [
    ")", "begin", ":", "gen_route_comp", "localparam", "axi_ch_e", "Ch", "=", "axi_ch_e", "'(", "ch", ")",
    ";", "if", "(", "Ch", "==", "AxiAw", "||", "Ch", "==", "AxiAr", ")", "begin", ":", "gen_req_route_comp",
    "floo_route_comp", "#", "(", ".", "RouteCfg", "(", "RouteCfg", ")", ",", ".", "id_t", "(", "id_t", ")",
    ",", ".", "addr_t", "(", "axi_addr_t", ")", ",", ".", "addr_rule_t", "(", "sam_rule_t", ")", ",", ".",
    "route_t", "(", "route_t", ")", ")", "i_floo_req_route_comp", "(", ".", "clk_i", ",", ".", "rst_ni", ",",
    ".", "route_table_i", ",", ".", "addr_map_i", "(", "Sam", ")", ",", ".", "id_i", "(", "id_t", "'(", "'0",
    ")", ")", ",", ".", "addr_i", "(", "axi_req_addr", "[", "ch", "]", ")", ",", ".", "route_o", "(",
    "route_out", "[", "ch", "]", ")", ",", ".", "id_o", "(", "id_out", "[", "ch", "]", ")", ")", ";", "end",
    "else", "if", "(", "RouteCfg", ".", "RouteAlgo", "==", "floo_pkg", "::", "SourceRouting", "&&", "(",
    "Ch", "==", "AxiB", "||", "Ch", "==", "AxiR", ")", ")", "begin", ":", "gen_rsp_route_comp",
    "floo_route_comp", "#", "(", ".", "RouteCfg", "(", "RouteCfg", ")", ",", ".", "UseIdTable", "(", "1'b0",
    ")", ",", ".", "id_t", "(", "id_t", ")", ",", ".", "addr_t", "(", "axi_addr_t", ")", ",", ".",
    "addr_rule_t", "(", "sam_rule_t", ")", ",", ".", "route_t", "(", "route_t", ")", ")",
    "i_floo_rsp_route_comp", "(", ".", "clk_i", ",", ".", "rst_ni", ",", ".", "route_table_i", ",", ".",
    "addr_i", "(", "'0", ")", ",", ".", "addr_map_i", "(", "'0", ")", ","
  ]

def pin_axiChimney_10 : List String := [
    ".", "id_i", "(", "axi_rsp_src_id", "[", "ch", "]", ")", ",", ".", "route_o", "(", "route_out", "[",
    "ch", "]", ")", ",", ".", "id_o", "(", "id_out", "[", "ch", "]", ")", ")", ";", "end", "end", "if", "(",
    "RouteCfg", ".", "RouteAlgo", "==", "floo_pkg", "::", "SourceRouting", ")", "begin", ":",
    "gen_route_field", "assign", "route_out", "[", "AxiW", "]", "=", "axi_aw_id_q", ";", "assign", "dst_id",
    "=", "route_out", ";", "end", "else", "begin", ":", "gen_dst_field", "assign", "dst_id", "[", "AxiAw",
    "]", "=", "id_out", "[", "AxiAw", "]", ";", "assign", "dst_id", "[", "AxiAr", "]", "=", "id_out", "[",
    "AxiAr", "]", ";", "assign", "dst_id", "[", "AxiB", "]", "=", "aw_out_hdr_out", ".", "hdr", ".",
    "src_id", ";", "assign", "dst_id", "[", "AxiR", "]", "=", "ar_out_hdr_out", ".", "hdr", ".", "src_id",
    ";", "assign", "dst_id", "[", "AxiW", "]", "=", "axi_aw_id_q", ";", "end", "`FFL", "(", "axi_aw_id_q",
    ",", "dst_id", "[", "AxiAw", "]", ",", "axi_aw_queue_valid_out", "&&", "axi_aw_queue_ready_in", ",",
    "'0", ")", "always_comb", "begin", "floo_axi_aw", "=", "'0", ";", "floo_axi_aw", ".", "hdr", ".",
    "rob_req", "=", "aw_rob_req_out", ";", "floo_axi_aw", ".", "hdr", ".", "rob_idx", "=", "aw_rob_idx_out",
    ";", "floo_axi_aw", ".", "hdr", ".", "dst_id", "=", "dst_id", "[", "AxiAw", "]", ";", "floo_axi_aw", ".",
    "hdr", ".", "src_id", "=", "id_i", ";", "floo_axi_aw", ".", "hdr", ".", "last", "=", "1'b0", ";",
    "floo_axi_aw", ".", "hdr", ".", "axi_ch", "=", "AxiAw", ";", "floo_axi_aw", ".", "hdr", ".", "atop", "=",
    "axi_aw_queue", ".", "atop", "!=", "axi_pkg", "::"
  ]

def pin_axiChimney_11 : List String := [
    "ATOP_NONE", ";", "floo_axi_aw", ".", "payload", "=", "axi_aw_queue", ";", "end", "always_comb", "begin",
    "floo_axi_w", "=", "'0", ";", "floo_axi_w", ".", "hdr", ".", "rob_req", "=", "aw_rob_req_out", ";",
    "floo_axi_w", ".", "hdr", ".", "rob_idx", "=", "aw_rob_idx_out", ";", "floo_axi_w", ".", "hdr", ".",
    "dst_id", "=", "dst_id", "[", "AxiW", "]", ";", "floo_axi_w", ".", "hdr", ".", "src_id", "=", "id_i",
    ";", "floo_axi_w", ".", "hdr", ".", "last", "=", "axi_req_in", ".", "w", ".", "last", ";", "floo_axi_w",
    ".", "hdr", ".", "axi_ch", "=", "AxiW", ";", "floo_axi_w", ".", "payload", "=", "axi_req_in", ".", "w",
    ";", "end", "always_comb", "begin", "floo_axi_ar", "=", "'0", ";", "floo_axi_ar", ".", "hdr", ".",
    "rob_req", "=", "ar_rob_req_out", ";", "floo_axi_ar", ".", "hdr", ".", "rob_idx", "=", "ar_rob_idx_out",
    ";", "floo_axi_ar", ".", "hdr", ".", "dst_id", "=", "dst_id", "[", "AxiAr", "]", ";", "floo_axi_ar", ".",
    "hdr", ".", "src_id", "=", "id_i", ";", "floo_axi_ar", ".", "hdr", ".", "last", "=", "1'b1", ";",
    "floo_axi_ar", ".", "hdr", ".", "axi_ch", "=", "AxiAr", ";", "floo_axi_ar", ".", "payload", "=",
    "axi_ar_queue", ";", "end", "always_comb", "begin", "floo_axi_b", "=", "'0", ";", "floo_axi_b", ".",
    "hdr", ".", "rob_req", "=", "aw_out_hdr_out", ".", "hdr", ".", "rob_req", ";", "floo_axi_b", ".", "hdr",
    ".", "rob_idx", "=", "aw_out_hdr_out", ".", "hdr", ".", "rob_idx", ";", "floo_axi_b", ".", "hdr", ".",
    "dst_id", "=", "dst_id", "[", "AxiB", "]", ";", "floo_axi_b", ".", "hdr", ".", "src_id", "=", "id_i",
    ";", "floo_axi_b", ".", "hdr", ".", "last", "=", "1'b1", ";"
  ]

def pin_axiChimney_12 : List String := [
    "floo_axi_b", ".", "hdr", ".", "axi_ch", "=", "AxiB", ";", "floo_axi_b", ".", "hdr", ".", "atop", "=",
    "aw_out_hdr_out", ".", "hdr", ".", "atop", ";", "floo_axi_b", ".", "payload", "=", "meta_buf_rsp_out",
    ".", "b", ";", "floo_axi_b", ".", "payload", ".", "id", "=", "aw_out_hdr_out", ".", "id", ";", "end",
    "always_comb", "begin", "floo_axi_r", "=", "'0", ";", "floo_axi_r", ".", "hdr", ".", "rob_req", "=",
    "ar_out_hdr_out", ".", "hdr", ".", "rob_req", ";", "floo_axi_r", ".", "hdr", ".", "rob_idx", "=",
    "ar_out_hdr_out", ".", "hdr", ".", "rob_idx", ";", "floo_axi_r", ".", "hdr", ".", "dst_id", "=",
    "dst_id", "[", "AxiR", "]", ";", "floo_axi_r", ".", "hdr", ".", "src_id", "=", "id_i", ";", "floo_axi_r",
    ".", "hdr", ".", "last", "=", "1'b1", ";", "floo_axi_r", ".", "hdr", ".", "axi_ch", "=", "AxiR", ";",
    "floo_axi_r", ".", "hdr", ".", "atop", "=", "ar_out_hdr_out", ".", "hdr", ".", "atop", ";", "floo_axi_r",
    ".", "payload", "=", "meta_buf_rsp_out", ".", "r", ";", "floo_axi_r", ".", "payload", ".", "id", "=",
    "ar_out_hdr_out", ".", "id", ";", "end", "always_comb", "begin", "aw_w_sel_d", "=", "aw_w_sel_q", ";",
    "if", "(", "axi_aw_queue_valid_out", "&&", "axi_aw_queue_ready_in", ")", "aw_w_sel_d", "=", "SelW", ";",
    "if", "(", "axi_req_in", ".", "w_valid", "&&", "axi_rsp_out", ".", "w_ready", "&&", "axi_req_in", ".",
    "w", ".", "last", ")", "aw_w_sel_d", "=", "SelAw", ";", "end", "`FF", "(", "aw_w_sel_q", ",",
    "aw_w_sel_d", ",", "SelAw", ")", "assign", "floo_req_arb_req_in", "[", "AxiW", "]", "=", "(",
    "aw_w_sel_q", "==", "SelAw", ")", "&&", "(", "aw_rob_valid_out", "||", "(", "(", "axi_aw_queue", ".",
    "atop"
  ]

def pin_axiChimney_13 : List String := [
    "!=", "axi_pkg", "::", "ATOP_NONE", ")", "&&", "axi_aw_queue_valid_out", ")", ")", "||", "(",
    "aw_w_sel_q", "==", "SelW", ")", "&&", "axi_req_in", ".", "w_valid", ";", "assign",
    "floo_req_arb_req_in", "[", "AxiAr", "]", "=", "ar_rob_valid_out", ";", "assign", "floo_rsp_arb_req_in",
    "[", "AxiB", "]", "=", "meta_buf_rsp_out", ".", "b_valid", ";", "assign", "floo_rsp_arb_req_in", "[",
    "AxiR", "]", "=", "meta_buf_rsp_out", ".", "r_valid", ";", "assign", "aw_rob_ready_in", "=",
    "floo_req_arb_gnt_out", "[", "AxiW", "]", "&&", "(", "aw_w_sel_q", "==", "SelAw", ")", ";", "assign",
    "axi_rsp_out", ".", "w_ready", "=", "floo_req_arb_gnt_out", "[", "AxiW", "]", "&&", "(", "aw_w_sel_q",
    "==", "SelW", ")", ";", "assign", "ar_rob_ready_in", "=", "floo_req_arb_gnt_out", "[", "AxiAr", "]", ";",
    "assign", "floo_req_arb_in", "[", "AxiW", "]", "=", "(", "aw_w_sel_q", "==", "SelAw", ")", "?",
    "floo_axi_aw", ":", "floo_axi_w", ";", "assign", "floo_req_arb_in", "[", "AxiAr", "]", "=",
    "floo_axi_ar", ";", "assign", "floo_rsp_arb_in", "[", "AxiB", "]", "=", "floo_axi_b", ";", "assign",
    "floo_rsp_arb_in", "[", "AxiR", "]", "=", "floo_axi_r", ";", "floo_wormhole_arbiter", "#", "(", ".",
    "NumRoutes", "(", "2", ")", ",", ".", "flit_t", "(", "floo_req_generic_flit_t", ")", ")",
    "i_req_wormhole_arbiter", "(", ".", "clk_i", "(", "clk_i", ")", ",", ".", "rst_ni", "(", "rst_ni", ")",
    ",", ".", "valid_i", "(", "floo_req_arb_req_in", ")", ",", ".", "data_i", "(", "floo_req_arb_in", ")",
    ",", ".", "ready_o", "(", "floo_req_arb_gnt_out", ")", ",", ".", "data_o", "(", "floo_req_o", ".", "req",
    ")", ",", ".", "ready_i", "(", "floo_req_i", ".", "ready", ")", ",", ".", "valid_o", "(", "floo_req_o",
    ".", "valid", ")", ")", ";", "floo_wormhole_arbiter", "#"
  ]

def pin_axiChimney_14 : List String := [
    "(", ".", "NumRoutes", "(", "2", ")", ",", ".", "flit_t", "(", "floo_rsp_generic_flit_t", ")", ")",
    "i_rsp_wormhole_arbiter", "(", ".", "clk_i", "(", "clk_i", ")", ",", ".", "rst_ni", "(", "rst_ni", ")",
    ",", ".", "valid_i", "(", "floo_rsp_arb_req_in", ")", ",", ".", "data_i", "(", "floo_rsp_arb_in", ")",
    ",", ".", "ready_o", "(", "floo_rsp_arb_gnt_out", ")", ",", ".", "data_o", "(", "floo_rsp_o", ".", "rsp",
    ")", ",", ".", "ready_i", "(", "floo_rsp_i", ".", "ready", ")", ",", ".", "valid_o", "(", "floo_rsp_o",
    ".", "valid", ")", ")", ";", "logic", "is_atop_b_rsp", ",", "is_atop_r_rsp", ";", "logic", "b_sel_atop",
    ",", "r_sel_atop", ";", "logic", "b_rob_pending_q", ",", "r_rob_pending_q", ";", "assign",
    "is_atop_b_rsp", "=", "AtopSupport", "&&", "axi_valid_in", "[", "AxiB", "]", "&&", "unpack_rsp_generic",
    ".", "hdr", ".", "atop", ";", "assign", "is_atop_r_rsp", "=", "AtopSupport", "&&", "axi_valid_in", "[",
    "AxiR", "]", "&&", "unpack_rsp_generic", ".", "hdr", ".", "atop", ";", "assign", "b_sel_atop", "=",
    "is_atop_b_rsp", "&&", "!", "b_rob_pending_q", ";", "assign", "r_sel_atop", "=", "is_atop_r_rsp", "&&",
    "!", "r_rob_pending_q", ";", "assign", "axi_unpack_aw", "=", "floo_req_in", ".", "axi_aw", ".",
    "payload", ";", "assign", "axi_unpack_w", "=", "floo_req_in", ".", "axi_w", ".", "payload", ";",
    "assign", "axi_unpack_ar", "=", "floo_req_in", ".", "axi_ar", ".", "payload", ";", "assign",
    "axi_unpack_r", "=", "floo_rsp_in", ".", "axi_r", ".", "payload", ";", "assign", "axi_unpack_b", "=",
    "floo_rsp_in", ".", "axi_b", ".", "payload", ";", "assign", "unpack_req_generic", "=", "floo_req_in",
    ".", "generic", ";", "assign", "unpack_rsp_generic", "=", "floo_rsp_in", ".", "generic", ";", "assign",
    "axi_valid_in", "[", "AxiAw", "]", "=", "floo_req_in_valid", "&&"
  ]

def pin_axiChimney_15 : List String := [
    "(", "unpack_req_generic", ".", "hdr", ".", "axi_ch", "==", "AxiAw", ")", ";", "assign", "axi_valid_in",
    "[", "AxiW", "]", "=", "floo_req_in_valid", "&&", "(", "unpack_req_generic", ".", "hdr", ".", "axi_ch",
    "==", "AxiW", ")", ";", "assign", "axi_valid_in", "[", "AxiAr", "]", "=", "floo_req_in_valid", "&&", "(",
    "unpack_req_generic", ".", "hdr", ".", "axi_ch", "==", "AxiAr", ")", ";", "assign", "axi_valid_in", "[",
    "AxiB", "]", "=", "ChimneyCfg", ".", "EnMgrPort", "&&", "floo_rsp_in_valid", "&&", "(",
    "unpack_rsp_generic", ".", "hdr", ".", "axi_ch", "==", "AxiB", ")", ";", "assign", "axi_valid_in", "[",
    "AxiR", "]", "=", "ChimneyCfg", ".", "EnMgrPort", "&&", "floo_rsp_in_valid", "&&", "(",
    "unpack_rsp_generic", ".", "hdr", ".", "axi_ch", "==", "AxiR", ")", ";", "assign", "axi_ready_out", "[",
    "AxiAw", "]", "=", "meta_buf_rsp_out", ".", "aw_ready", ";", "assign", "axi_ready_out", "[", "AxiW", "]",
    "=", "meta_buf_rsp_out", ".", "w_ready", ";", "assign", "axi_ready_out", "[", "AxiAr", "]", "=",
    "meta_buf_rsp_out", ".", "ar_ready", ";", "assign", "axi_ready_out", "[", "AxiB", "]", "=",
    "b_rob_ready_out", "||", "b_sel_atop", "&&", "axi_req_in", ".", "b_ready", ";", "assign",
    "axi_ready_out", "[", "AxiR", "]", "=", "r_rob_ready_out", "||", "r_sel_atop", "&&", "axi_req_in", ".",
    "r_ready", ";", "assign", "floo_req_out_ready", "=", "axi_ready_out", "[", "unpack_req_generic", ".",
    "hdr", ".", "axi_ch", "]", ";", "assign", "floo_rsp_out_ready", "=", "axi_ready_out", "[",
    "unpack_rsp_generic", ".", "hdr", ".", "axi_ch", "]", ";", "assign", "meta_buf_req_in", "=", "'{", "aw",
    ":", "axi_unpack_aw", ",", "aw_valid", ":", "axi_valid_in", "[", "AxiAw", "]", ",", "w", ":",
    "axi_unpack_w", ",", "w_valid", ":", "axi_valid_in", "[", "AxiW", "]", ",", "b_ready", ":"
  ]

def pin_axiChimney_16 : List String := [
    "floo_rsp_arb_gnt_out", "[", "AxiB", "]", ",", "ar", ":", "axi_unpack_ar", ",", "ar_valid", ":",
    "axi_valid_in", "[", "AxiAr", "]", ",", "r_ready", ":", "floo_rsp_arb_gnt_out", "[", "AxiR", "]", "}",
    ";", "assign", "b_rob_valid_in", "=", "axi_valid_in", "[", "AxiB", "]", "&&", "!", "is_atop_b_rsp", ";",
    "assign", "r_rob_valid_in", "=", "axi_valid_in", "[", "AxiR", "]", "&&", "!", "is_atop_r_rsp", ";",
    "assign", "axi_rsp_out", ".", "b_valid", "=", "b_rob_valid_out", "||", "is_atop_b_rsp", ";", "assign",
    "axi_rsp_out", ".", "r_valid", "=", "r_rob_valid_out", "||", "is_atop_r_rsp", ";", "assign",
    "b_rob_ready_in", "=", "axi_req_in", ".", "b_ready", "&&", "!", "b_sel_atop", ";", "assign",
    "r_rob_ready_in", "=", "axi_req_in", ".", "r_ready", "&&", "!", "r_sel_atop", ";", "assign",
    "axi_b_rob_in", "=", "axi_unpack_b", ";", "assign", "axi_r_rob_in", "=", "axi_unpack_r", ";", "assign",
    "axi_rsp_out", ".", "b", "=", "(", "b_sel_atop", ")", "?", "axi_unpack_b", ":", "axi_b_rob_out", ";",
    "assign", "axi_rsp_out", ".", "r", "=", "(", "r_sel_atop", ")", "?", "axi_unpack_r", ":",
    "axi_r_rob_out", ";", "logic", "is_atop", ",", "atop_has_r_rsp", ";", "assign", "is_atop", "=",
    "AtopSupport", "&&", "axi_valid_in", "[", "AxiAw", "]", "&&", "(", "axi_unpack_aw", ".", "atop", "!=",
    "axi_pkg", "::", "ATOP_NONE", ")", ";", "assign", "atop_has_r_rsp", "=", "AtopSupport", "&&",
    "axi_valid_in", "[", "AxiAw", "]", "&&", "axi_unpack_aw", ".", "atop", "[", "axi_pkg", "::",
    "ATOP_R_RESP", "]", ";", "assign", "aw_out_hdr_in", "=", "'{", "id", ":", "axi_unpack_aw", ".", "id",
    ",", "hdr", ":", "unpack_req_generic", ".", "hdr", "}", ";", "assign", "ar_out_hdr_in", "=", "'{", "id",
    ":", "(", "is_atop", "&&", "atop_has_r_rsp", ")", "?", "axi_unpack_aw", ".", "id", ":", "axi_unpack_ar",
    ".", "id"
  ]

def pin_axiChimney_17 : List String := [
    ",", "hdr", ":", "unpack_req_generic", ".", "hdr", "}", ";", "if", "(", "ChimneyCfg", ".", "EnSbrPort",
    ")", "begin", ":", "gen_mgr_port", "floo_meta_buffer", "#", "(", ".", "InIdWidth", "(", "AxiCfg", ".",
    "InIdWidth", ")", ",", ".", "OutIdWidth", "(", "AxiCfg", ".", "OutIdWidth", ")", ",", ".", "MaxTxns",
    "(", "ChimneyCfg", ".", "MaxTxns", ")", ",", ".", "MaxUniqueIds", "(", "ChimneyCfg", ".", "MaxUniqueIds",
    ")", ",", ".", "AtopSupport", "(", "AtopSupport", ")", ",", ".", "MaxAtomicTxns", "(", "MaxAtomicTxns",
    ")", ",", ".", "buf_t", "(", "meta_buf_t", ")", ",", ".", "axi_in_req_t", "(", "axi_in_req_t", ")", ",",
    ".", "axi_in_rsp_t", "(", "axi_in_rsp_t", ")", ",", ".", "axi_out_req_t", "(", "axi_out_req_t", ")", ",",
    ".", "axi_out_rsp_t", "(", "axi_out_rsp_t", ")", ")", "i_floo_meta_buffer", "(", ".", "clk_i", ",", ".",
    "rst_ni", ",", ".", "test_enable_i", ",", ".", "axi_req_i", "(", "meta_buf_req_in", ")", ",", ".",
    "axi_rsp_o", "(", "meta_buf_rsp_out", ")", ",", ".", "axi_req_o", "(", "meta_buf_req_out", ")", ",", ".",
    "axi_rsp_i", "(", "meta_buf_rsp_in", ")", ",", ".", "aw_buf_i", "(", "aw_out_hdr_in", ")", ",", ".",
    "ar_buf_i", "(", "ar_out_hdr_in", ")", ",", ".", "r_buf_o", "(", "ar_out_hdr_out", ")", ",", ".",
    "b_buf_o", "(", "aw_out_hdr_out", ")", ")", ";", "end", "else", "begin", ":", "gen_no_mgr_port",
    "axi_err_slv", "#", "(", ".", "AxiIdWidth", "(", "AxiCfg", ".", "InIdWidth", ")", ",", ".", "ATOPs", "(",
    "AtopSupport", ")", ",", ".", "axi_req_t", "(", "axi_in_req_t", ")", ",", ".", "axi_resp_t", "(",
    "axi_in_rsp_t", ")", ")", "i_axi_err_slv", "(", ".", "clk_i", "(", "clk_i", ")", ",", ".", "rst_ni", "(",
    "rst_ni"
  ]

def pin_axiChimney_18 : List String := [
    ")", ",", ".", "test_i", "(", "test_enable_i", ")", ",", ".", "slv_req_i", "(", "meta_buf_req_in", ")",
    ",", ".", "slv_resp_o", "(", "meta_buf_rsp_out", ")", ")", ";", "assign", "meta_buf_req_out", "=", "'0",
    ";", "assign", "ar_out_hdr_out", "=", "'0", ";", "assign", "aw_out_hdr_out", "=", "'0", ";", "end",
    "`FF", "(", "b_rob_pending_q", ",", "b_rob_valid_out", "&&", "!", "b_rob_ready_in", "&&", "!",
    "is_atop_b_rsp", ",", "'0", ")", "`FF", "(", "r_rob_pending_q", ",", "r_rob_valid_out", "&&", "!",
    "r_rob_ready_in", "&&", "!", "is_atop_r_rsp", ",", "'0", ")", "`ASSERT_INIT", "(", "ToSmallIdWidth", ",",
    "1", "+", "AtopSupport", "*", "MaxAtomicTxns", "<=", "2", "*", "*", "AxiCfg", ".", "OutIdWidth", ")",
    "`ASSERT_INIT", "(", "NoMgrPortRobType", ",", "ChimneyCfg", ".", "EnMgrPort", "||", "(", "ChimneyCfg",
    ".", "BRoBType", "==", "NoRoB", "&&", "ChimneyCfg", ".", "RRoBType", "==", "NoRoB", ")", ")", "`ASSERT",
    "(", "NoMgrPortBResponse", ",", "ChimneyCfg", ".", "EnMgrPort", "||", "!", "(", "floo_rsp_in_valid",
    "&&", "(", "unpack_rsp_generic", ".", "hdr", ".", "axi_ch", "==", "AxiB", ")", ")", ")", "`ASSERT", "(",
    "NoMgrPortRResponse", ",", "ChimneyCfg", ".", "EnMgrPort", "||", "!", "(", "floo_rsp_in_valid", "&&",
    "(", "unpack_rsp_generic", ".", "hdr", ".", "axi_ch", "==", "AxiR", ")", ")", ")", "`ASSERT", "(",
    "NoSbrPortAwRequest", ",", "ChimneyCfg", ".", "EnSbrPort", "||", "!", "(", "floo_req_in_valid", "&&",
    "(", "unpack_req_generic", ".", "hdr", ".", "axi_ch", "==", "AxiAw", ")", ")", ")", "`ASSERT", "(",
    "NoSbrPortArRequest", ",", "ChimneyCfg", ".", "EnSbrPort", "||", "!", "(", "floo_req_in_valid", "&&",
    "(", "unpack_req_generic", ".", "hdr", ".", "axi_ch", "==", "AxiAr", ")", ")", ")", "`ASSERT", "(",
    "NoSbrPortWRequest", ","
  ]

def pin_axiChimney_19 : List String := [
    "ChimneyCfg", ".", "EnSbrPort", "||", "!", "(", "floo_req_in_valid", "&&", "(", "unpack_req_generic",
    ".", "hdr", ".", "axi_ch", "==", "AxiW", ")", ")", ")", "endmodule"
  ]

def pin_axiChimney : List String := pin_axiChimney_0 ++ pin_axiChimney_1 ++ pin_axiChimney_2 ++ pin_axiChimney_3 ++ pin_axiChimney_4 ++ pin_axiChimney_5 ++ pin_axiChimney_6 ++ pin_axiChimney_7 ++ pin_axiChimney_8 ++ pin_axiChimney_9 ++ pin_axiChimney_10 ++ pin_axiChimney_11 ++ pin_axiChimney_12 ++ pin_axiChimney_13 ++ pin_axiChimney_14 ++ pin_axiChimney_15 ++ pin_axiChimney_16 ++ pin_axiChimney_17 ++ pin_axiChimney_18 ++ pin_axiChimney_19


/-- the tokens of this part of the working tree's RTL are the pinned ones -/
theorem axiChimney_pinned : rtlFacts.axiChimney = pin_axiChimney := rfl

def pin_nwChimney_0 : List String := [
    "`include", "\"common_cells/registers.svh\"", "`include", "\"common_cells/assertions.svh\"", "`include",
    "\"axi/typedef.svh\"", "`include", "\"floo_noc/typedef.svh\"", "module", "floo_nw_chimney", "#", "(",
    "parameter", "floo_pkg", "::", "axi_cfg_t", "AxiCfgN", "=", "'0", ",", "parameter", "floo_pkg", "::",
    "axi_cfg_t", "AxiCfgW", "=", "'0", ",", "parameter", "floo_pkg", "::", "chimney_cfg_t", "ChimneyCfgN",
    "=", "floo_pkg", "::", "ChimneyDefaultCfg", ",", "parameter", "floo_pkg", "::", "chimney_cfg_t",
    "ChimneyCfgW", "=", "floo_pkg", "::", "ChimneyDefaultCfg", ",", "parameter", "floo_pkg", "::",
    "route_cfg_t", "RouteCfg", "=", "floo_pkg", "::", "RouteDefaultCfg", ",", "parameter", "bit",
    "AtopSupport", "=", "1'b1", ",", "parameter", "int", "unsigned", "MaxAtomicTxns", "=", "1", ",",
    "parameter", "type", "id_t", "=", "logic", ",", "parameter", "type", "rob_idx_t", "=", "logic", ",",
    "parameter", "type", "route_t", "=", "logic", ",", "parameter", "type", "dst_t", "=", "id_t", ",",
    "parameter", "type", "hdr_t", "=", "logic", ",", "parameter", "type", "sam_rule_t", "=", "logic", ",",
    "parameter", "sam_rule_t", "[", "RouteCfg", ".", "NumSamRules", "-", "1", ":", "0", "]", "Sam", "=",
    "'0", ",", "parameter", "type", "axi_narrow_in_req_t", "=", "logic", ",", "parameter", "type",
    "axi_narrow_in_rsp_t", "=", "logic", ",", "parameter", "type", "axi_narrow_out_req_t", "=", "logic", ",",
    "parameter", "type", "axi_narrow_out_rsp_t", "=", "logic", ",", "parameter", "type", "axi_wide_in_req_t",
    "=", "logic", ",", "parameter", "type", "axi_wide_in_rsp_t", "=", "logic", ",", "parameter", "type",
    "axi_wide_out_req_t", "=", "logic", ",", "parameter", "type", "axi_wide_out_rsp_t", "=", "logic", ",",
    "parameter", "type", "floo_req_t", "=", "logic", ",", "parameter", "type", "floo_rsp_t", "=", "logic",
    ",", "parameter", "type", "floo_wide_t", "=", "logic", ",", "parameter", "type", "sram_cfg_t", "=",
    "logic", ")", "(", "input", "logic", "clk_i", ",", "input"
  ]

def pin_nwChimney_1 : List String := [
    "logic", "rst_ni", ",", "input", "logic", "test_enable_i", ",", "input", "sram_cfg_t", "sram_cfg_i", ",",
    "input", "axi_narrow_in_req_t", "axi_narrow_in_req_i", ",", "output", "axi_narrow_in_rsp_t",
    "axi_narrow_in_rsp_o", ",", "output", "axi_narrow_out_req_t", "axi_narrow_out_req_o", ",", "input",
    "axi_narrow_out_rsp_t", "axi_narrow_out_rsp_i", ",", "input", "axi_wide_in_req_t", "axi_wide_in_req_i",
    ",", "output", "axi_wide_in_rsp_t", "axi_wide_in_rsp_o", ",", "output", "axi_wide_out_req_t",
    "axi_wide_out_req_o", ",", "input", "axi_wide_out_rsp_t", "axi_wide_out_rsp_i", ",", "input", "id_t",
    "id_i", ",", "input", "route_t", "[", "RouteCfg", ".", "NumRoutes", "-", "1", ":", "0", "]",
    "route_table_i", ",", "output", "floo_req_t", "floo_req_o", ",", "output", "floo_rsp_t", "floo_rsp_o",
    ",", "output", "floo_wide_t", "floo_wide_o", ",", "input", "floo_req_t", "floo_req_i", ",", "input",
    "floo_rsp_t", "floo_rsp_i", ",", "input", "floo_wide_t", "floo_wide_i", ")", ";", "import", "floo_pkg",
    "::", "*", ";", "typedef", "logic", "[", "AxiCfgN", ".", "AddrWidth", "-", "1", ":", "0", "]",
    "axi_addr_t", ";", "typedef", "logic", "[", "AxiCfgN", ".", "InIdWidth", "-", "1", ":", "0", "]",
    "axi_narrow_in_id_t", ";", "typedef", "logic", "[", "AxiCfgN", ".", "OutIdWidth", "-", "1", ":", "0",
    "]", "axi_narrow_out_id_t", ";", "typedef", "logic", "[", "AxiCfgN", ".", "UserWidth", "-", "1", ":",
    "0", "]", "axi_narrow_user_t", ";", "typedef", "logic", "[", "AxiCfgN", ".", "DataWidth", "-", "1", ":",
    "0", "]", "axi_narrow_data_t", ";", "typedef", "logic", "[", "AxiCfgN", ".", "DataWidth", "/", "8", "-",
    "1", ":", "0", "]", "axi_narrow_strb_t", ";", "typedef", "logic", "[", "AxiCfgW", ".", "InIdWidth", "-",
    "1", ":", "0", "]", "axi_wide_in_id_t", ";", "typedef", "logic", "[", "AxiCfgW", ".", "OutIdWidth", "-",
    "1", ":", "0", "]", "axi_wide_out_id_t", ";", "typedef", "logic", "[", "AxiCfgW"
  ]

def pin_nwChimney_2 : List String := [
    ".", "UserWidth", "-", "1", ":", "0", "]", "axi_wide_user_t", ";", "typedef", "logic", "[", "AxiCfgW",
    ".", "DataWidth", "-", "1", ":", "0", "]", "axi_wide_data_t", ";", "typedef", "logic", "[", "AxiCfgW",
    ".", "DataWidth", "/", "8", "-", "1", ":", "0", "]", "axi_wide_strb_t", ";", "`AXI_TYPEDEF_ALL_CT", "(",
    "axi_narrow", ",", "axi_narrow_req_t", ",", "axi_narrow_rsp_t", ",", "axi_addr_t", ",",
    "axi_narrow_in_id_t", ",", "axi_narrow_data_t", ",", "axi_narrow_strb_t", ",", "axi_narrow_user_t", ")",
    "`AXI_TYPEDEF_ALL_CT", "(", "axi_wide", ",", "axi_wide_req_t", ",", "axi_wide_rsp_t", ",", "axi_addr_t",
    ",", "axi_wide_in_id_t", ",", "axi_wide_data_t", ",", "axi_wide_strb_t", ",", "axi_wide_user_t", ")",
    "`AXI_TYPEDEF_AW_CHAN_T", "(", "axi_wide_out_aw_chan_t", ",", "axi_addr_t", ",", "axi_wide_out_id_t",
    ",", "axi_wide_user_t", ")", "`AXI_TYPEDEF_AW_CHAN_T", "(", "axi_narrow_out_aw_chan_t", ",",
    "axi_addr_t", ",", "axi_narrow_out_id_t", ",", "axi_narrow_user_t", ")", "`FLOO_TYPEDEF_NW_CHAN_ALL",
    "(", "axi", ",", "req", ",", "rsp", ",", "wide", ",", "axi_narrow", ",", "axi_wide", ",", "AxiCfgN", ",",
    "AxiCfgW", ",", "hdr_t", ")", "axi_narrow_req_t", "axi_narrow_req_in", ";", "axi_narrow_rsp_t",
    "axi_narrow_rsp_out", ";", "axi_wide_req_t", "axi_wide_req_in", ";", "axi_wide_rsp_t",
    "axi_wide_rsp_out", ";", "axi_narrow_aw_chan_t", "axi_narrow_aw_queue", ";", "axi_narrow_ar_chan_t",
    "axi_narrow_ar_queue", ";", "axi_wide_aw_chan_t", "axi_wide_aw_queue", ";", "axi_wide_ar_chan_t",
    "axi_wide_ar_queue", ";", "logic", "axi_narrow_aw_queue_valid_out", ",", "axi_narrow_aw_queue_ready_in",
    ";", "logic", "axi_narrow_ar_queue_valid_out", ",", "axi_narrow_ar_queue_ready_in", ";", "logic",
    "axi_wide_aw_queue_valid_out", ",", "axi_wide_aw_queue_ready_in", ";", "logic",
    "axi_wide_ar_queue_valid_out", ",", "axi_wide_ar_queue_ready_in", ";", "floo_req_chan_t", "[", "WideAr",
    ":", "NarrowAw", "]", "floo_req_arb_in", ";", "floo_rsp_chan_t", "[", "WideB", ":", "NarrowB", "]",
    "floo_rsp_arb_in", ";", "floo_wide_chan_t", "[", "WideR", ":", "WideAw", "]", "floo_wide_arb_in", ";",
    "logic", "[", "WideAr", ":", "NarrowAw", "]", "floo_req_arb_req_in", ",", "floo_req_arb_gnt_out", ";",
    "logic", "[", "WideB", ":", "NarrowB", "]", "floo_rsp_arb_req_in", ",", "floo_rsp_arb_gnt_out"
  ]

def pin_nwChimney_3 : List String := [
    ";", "logic", "[", "WideR", ":", "WideAw", "]", "floo_wide_arb_req_in", ",", "floo_wide_arb_gnt_out",
    ";", "floo_req_chan_t", "floo_req_in", ";", "floo_rsp_chan_t", "floo_rsp_in", ";", "floo_wide_chan_t",
    "floo_wide_in", ";", "logic", "floo_req_in_valid", ",", "floo_rsp_in_valid", ",", "floo_wide_in_valid",
    ";", "logic", "floo_req_out_ready", ",", "floo_rsp_out_ready", ",", "floo_wide_out_ready", ";", "logic",
    "[", "NumNWAxiChannels", "-", "1", ":", "0", "]", "axi_valid_in", ",", "axi_ready_out", ";",
    "floo_axi_narrow_aw_flit_t", "floo_narrow_aw", ";", "floo_axi_narrow_ar_flit_t", "floo_narrow_ar", ";",
    "floo_axi_narrow_w_flit_t", "floo_narrow_w", ";", "floo_axi_narrow_b_flit_t", "floo_narrow_b", ";",
    "floo_axi_narrow_r_flit_t", "floo_narrow_r", ";", "floo_axi_wide_aw_flit_t", "floo_wide_aw", ";",
    "floo_axi_wide_ar_flit_t", "floo_wide_ar", ";", "floo_axi_wide_w_flit_t", "floo_wide_w", ";",
    "floo_axi_wide_b_flit_t", "floo_wide_b", ";", "floo_axi_wide_r_flit_t", "floo_wide_r", ";", "typedef",
    "enum", "logic", "{", "SelAw", ",", "SelW", "}", "aw_w_sel_e", ";", "aw_w_sel_e", "narrow_aw_w_sel_q",
    ",", "narrow_aw_w_sel_d", ";", "aw_w_sel_e", "wide_aw_w_sel_q", ",", "wide_aw_w_sel_d", ";",
    "axi_narrow_aw_chan_t", "axi_narrow_unpack_aw", ";", "axi_narrow_w_chan_t", "axi_narrow_unpack_w", ";",
    "axi_narrow_b_chan_t", "axi_narrow_unpack_b", ";", "axi_narrow_ar_chan_t", "axi_narrow_unpack_ar", ";",
    "axi_narrow_r_chan_t", "axi_narrow_unpack_r", ";", "axi_wide_aw_chan_t", "axi_wide_unpack_aw", ";",
    "axi_wide_w_chan_t", "axi_wide_unpack_w", ";", "axi_wide_b_chan_t", "axi_wide_unpack_b", ";",
    "axi_wide_ar_chan_t", "axi_wide_unpack_ar", ";", "axi_wide_r_chan_t", "axi_wide_unpack_r", ";",
    "floo_req_generic_flit_t", "floo_req_unpack_generic", ";", "floo_rsp_generic_flit_t",
    "floo_rsp_unpack_generic", ";", "floo_wide_generic_flit_t", "floo_wide_unpack_generic", ";",
    "axi_narrow_in_req_t", "axi_narrow_meta_buf_req_in", ";", "axi_narrow_in_rsp_t",
    "axi_narrow_meta_buf_rsp_out", ";", "axi_narrow_out_req_t", "axi_narrow_meta_buf_req_out", ";",
    "axi_narrow_out_rsp_t", "axi_narrow_meta_buf_rsp_in", ";", "axi_wide_in_req_t",
    "axi_wide_meta_buf_req_in", ";", "axi_wide_in_rsp_t", "axi_wide_meta_buf_rsp_out", ";",
    "axi_wide_out_req_t", "axi_wide_meta_buf_req_out", ";", "axi_wide_out_rsp_t", "axi_wide_meta_buf_rsp_in",
    ";", "typedef", "struct", "packed", "{", "axi_narrow_in_id_t", "id", ";", "hdr_t", "hdr", ";", "}",
    "narrow_meta_buf_t", ";", "typedef", "struct", "packed", "{", "axi_wide_in_id_t", "id", ";", "hdr_t",
    "hdr", ";", "}", "wide_meta_buf_t", ";", "dst_t", "[", "NumNWAxiChannels", "-", "1", ":", "0", "]",
    "dst_id", ";", "dst_t", "narrow_aw_id_q", ",", "wide_aw_id_q", ";"
  ]

def pin_nwChimney_4 : List String := [
    "route_t", "[", "NumNWAxiChannels", "-", "1", ":", "0", "]", "route_out", ";", "id_t", "[",
    "NumNWAxiChannels", "-", "1", ":", "0", "]", "id_out", ";", "narrow_meta_buf_t", "narrow_aw_buf_hdr_in",
    ",", "narrow_aw_buf_hdr_out", ";", "narrow_meta_buf_t", "narrow_ar_buf_hdr_in", ",",
    "narrow_ar_buf_hdr_out", ";", "wide_meta_buf_t", "wide_aw_buf_hdr_in", ",", "wide_aw_buf_hdr_out", ";",
    "wide_meta_buf_t", "wide_ar_buf_hdr_in", ",", "wide_ar_buf_hdr_out", ";", "if", "(", "ChimneyCfgN", ".",
    "EnMgrPort", ")", "begin", ":", "gen_narrow_sbr_port", "assign", "axi_narrow_req_in", "=",
    "axi_narrow_in_req_i", ";", "assign", "axi_narrow_in_rsp_o", "=", "axi_narrow_rsp_out", ";", "if", "(",
    "ChimneyCfgN", ".", "CutAx", ")", "begin", ":", "gen_ax_cuts", "spill_register", "#", "(", ".", "T", "(",
    "axi_narrow_aw_chan_t", ")", ")", "i_narrow_aw_queue", "(", ".", "clk_i", ",", ".", "rst_ni", ",", ".",
    "data_i", "(", "axi_narrow_in_req_i", ".", "aw", ")", ",", ".", "valid_i", "(", "axi_narrow_in_req_i",
    ".", "aw_valid", ")", ",", ".", "ready_o", "(", "axi_narrow_rsp_out", ".", "aw_ready", ")", ",", ".",
    "data_o", "(", "axi_narrow_aw_queue", ")", ",", ".", "valid_o", "(", "axi_narrow_aw_queue_valid_out",
    ")", ",", ".", "ready_i", "(", "axi_narrow_aw_queue_ready_in", ")", ")", ";", "spill_register", "#", "(",
    ".", "T", "(", "axi_narrow_ar_chan_t", ")", ")", "i_narrow_ar_queue", "(", ".", "clk_i", ",", ".",
    "rst_ni", ",", ".", "data_i", "(", "axi_narrow_in_req_i", ".", "ar", ")", ",", ".", "valid_i", "(",
    "axi_narrow_in_req_i", ".", "ar_valid", ")", ",", ".", "ready_o", "(", "axi_narrow_rsp_out", ".",
    "ar_ready", ")", ",", ".", "data_o", "(", "axi_narrow_ar_queue", ")", ",", ".", "valid_o", "(",
    "axi_narrow_ar_queue_valid_out", ")", ",", ".", "ready_i", "(", "axi_narrow_ar_queue_ready_in", ")", ")",
    ";", "end", "else", "begin", ":", "gen_ax_no_cuts", "assign", "axi_narrow_aw_queue", "=",
    "axi_narrow_in_req_i", ".", "aw", ";"
  ]

def pin_nwChimney_5 : List String := [
    "assign", "axi_narrow_aw_queue_valid_out", "=", "axi_narrow_in_req_i", ".", "aw_valid", ";", "assign",
    "axi_narrow_rsp_out", ".", "aw_ready", "=", "axi_narrow_aw_queue_ready_in", ";", "assign",
    "axi_narrow_ar_queue", "=", "axi_narrow_in_req_i", ".", "ar", ";", "assign",
    "axi_narrow_ar_queue_valid_out", "=", "axi_narrow_in_req_i", ".", "ar_valid", ";", "assign",
    "axi_narrow_rsp_out", ".", "ar_ready", "=", "axi_narrow_ar_queue_ready_in", ";", "end", "end", "else",
    "begin", ":", "gen_narrow_err_slv_port", "axi_err_slv", "#", "(", ".", "AxiIdWidth", "(", "AxiCfgN", ".",
    "InIdWidth", ")", ",", ".", "ATOPs", "(", "AtopSupport", ")", ",", ".", "axi_req_t", "(",
    "axi_narrow_in_req_t", ")", ",", ".", "axi_resp_t", "(", "axi_narrow_in_rsp_t", ")", ")",
    "i_axi_err_slv", "(", ".", "clk_i", "(", "clk_i", ")", ",", ".", "rst_ni", "(", "rst_ni", ")", ",", ".",
    "test_i", "(", "test_enable_i", ")", ",", ".", "slv_req_i", "(", "axi_narrow_in_req_i", ")", ",", ".",
    "slv_resp_o", "(", "axi_narrow_in_rsp_o", ")", ")", ";", "assign", "axi_narrow_req_in", "=", "'0", ";",
    "assign", "axi_narrow_aw_queue", "=", "'0", ";", "assign", "axi_narrow_ar_queue", "=", "'0", ";",
    "assign", "axi_narrow_aw_queue_valid_out", "=", "1'b0", ";", "assign", "axi_narrow_ar_queue_valid_out",
    "=", "1'b0", ";", "end", "if", "(", "ChimneyCfgW", ".", "EnMgrPort", ")", "begin", ":",
    "gen_wide_sbr_port", "assign", "axi_wide_req_in", "=", "axi_wide_in_req_i", ";", "assign",
    "axi_wide_in_rsp_o", "=", "axi_wide_rsp_out", ";", "if", "(", "ChimneyCfgW", ".", "CutAx", ")", "begin",
    ":", "gen_ax_cuts", "spill_register", "#", "(", ".", "T", "(", "axi_wide_aw_chan_t", ")", ")",
    "i_wide_aw_queue", "(", ".", "clk_i", ",", ".", "rst_ni", ",", ".", "data_i", "(", "axi_wide_in_req_i",
    ".", "aw", ")", ",", ".", "valid_i", "(", "axi_wide_in_req_i", ".", "aw_valid", ")", ",", ".", "ready_o",
    "(", "axi_wide_rsp_out", ".", "aw_ready", ")", ",", ".", "data_o"
  ]

def pin_nwChimney_6 : List String := [
    "(", "axi_wide_aw_queue", ")", ",", ".", "valid_o", "(", "axi_wide_aw_queue_valid_out", ")", ",", ".",
    "ready_i", "(", "axi_wide_aw_queue_ready_in", ")", ")", ";", "spill_register", "#", "(", ".", "T", "(",
    "axi_wide_ar_chan_t", ")", ")", "i_wide_ar_queue", "(", ".", "clk_i", ",", ".", "rst_ni", ",", ".",
    "data_i", "(", "axi_wide_in_req_i", ".", "ar", ")", ",", ".", "valid_i", "(", "axi_wide_in_req_i", ".",
    "ar_valid", ")", ",", ".", "ready_o", "(", "axi_wide_rsp_out", ".", "ar_ready", ")", ",", ".", "data_o",
    "(", "axi_wide_ar_queue", ")", ",", ".", "valid_o", "(", "axi_wide_ar_queue_valid_out", ")", ",", ".",
    "ready_i", "(", "axi_wide_ar_queue_ready_in", ")", ")", ";", "end", "else", "begin", ":",
    "gen_ax_no_cuts", "assign", "axi_wide_aw_queue", "=", "axi_wide_in_req_i", ".", "aw", ";", "assign",
    "axi_wide_aw_queue_valid_out", "=", "axi_wide_in_req_i", ".", "aw_valid", ";", "assign",
    "axi_wide_rsp_out", ".", "aw_ready", "=", "axi_wide_aw_queue_ready_in", ";", "assign",
    "axi_wide_ar_queue", "=", "axi_wide_in_req_i", ".", "ar", ";", "assign", "axi_wide_ar_queue_valid_out",
    "=", "axi_wide_in_req_i", ".", "ar_valid", ";", "assign", "axi_wide_rsp_out", ".", "ar_ready", "=",
    "axi_wide_ar_queue_ready_in", ";", "end", "end", "else", "begin", ":", "gen_wide_err_slv_port",
    "axi_err_slv", "#", "(", ".", "AxiIdWidth", "(", "AxiCfgW", ".", "InIdWidth", ")", ",", ".", "ATOPs",
    "(", "AtopSupport", ")", ",", ".", "axi_req_t", "(", "axi_wide_in_req_t", ")", ",", ".", "axi_resp_t",
    "(", "axi_wide_in_rsp_t", ")", ")", "i_axi_err_slv", "(", ".", "clk_i", "(", "clk_i", ")", ",", ".",
    "rst_ni", "(", "rst_ni", ")", ",", ".", "test_i", "(", "test_enable_i", ")", ",", ".", "slv_req_i", "(",
    "axi_wide_in_req_i", ")", ",", ".", "slv_resp_o", "(", "axi_wide_in_rsp_o", ")", ")", ";", "assign",
    "axi_wide_req_in", "=", "'0", ";", "assign", "axi_wide_aw_queue", "="
  ]

def pin_nwChimney_7 : List String := [
    "'0", ";", "assign", "axi_wide_ar_queue", "=", "'0", ";", "assign", "axi_wide_aw_queue_valid_out", "=",
    "1'b0", ";", "assign", "axi_wide_ar_queue_valid_out", "=", "1'b0", ";", "end", "if", "(", "ChimneyCfgN",
    ".", "CutRsp", "&&", "ChimneyCfgW", ".", "CutRsp", ")", "begin", ":", "gen_rsp_cuts", "spill_register",
    "#", "(", ".", "T", "(", "floo_req_chan_t", ")", ")", "i_narrow_data_req_arb", "(", ".", "clk_i", ",",
    ".", "rst_ni", ",", ".", "data_i", "(", "floo_req_i", ".", "req", ")", ",", ".", "valid_i", "(",
    "floo_req_i", ".", "valid", ")", ",", ".", "ready_o", "(", "floo_req_o", ".", "ready", ")", ",", ".",
    "data_o", "(", "floo_req_in", ")", ",", ".", "valid_o", "(", "floo_req_in_valid", ")", ",", ".",
    "ready_i", "(", "floo_req_out_ready", ")", ")", ";", "spill_register", "#", "(", ".", "T", "(",
    "floo_rsp_chan_t", ")", ")", "i_narrow_data_rsp_arb", "(", ".", "clk_i", ",", ".", "rst_ni", ",", ".",
    "data_i", "(", "floo_rsp_i", ".", "rsp", ")", ",", ".", "valid_i", "(", "floo_rsp_i", ".", "valid", ")",
    ",", ".", "ready_o", "(", "floo_rsp_o", ".", "ready", ")", ",", ".", "data_o", "(", "floo_rsp_in", ")",
    ",", ".", "valid_o", "(", "floo_rsp_in_valid", ")", ",", ".", "ready_i", "(", "floo_rsp_out_ready", ")",
    ")", ";", "spill_register", "#", "(", ".", "T", "(", "floo_wide_chan_t", ")", ")", "i_wide_data_req_arb",
    "(", ".", "clk_i", ",", ".", "rst_ni", ",", ".", "data_i", "(", "floo_wide_i", ".", "wide", ")", ",",
    ".", "valid_i", "(", "floo_wide_i", ".", "valid", ")", ",", ".", "ready_o", "(", "floo_wide_o", ".",
    "ready", ")", ",", ".", "data_o", "(", "floo_wide_in", ")", ",", ".", "valid_o"
  ]

def pin_nwChimney_8 : List String := [
    "(", "floo_wide_in_valid", ")", ",", ".", "ready_i", "(", "floo_wide_out_ready", ")", ")", ";", "end",
    "else", "begin", ":", "gen_no_rsp_cuts", "assign", "floo_req_in", "=", "floo_req_i", ".", "req", ";",
    "assign", "floo_rsp_in", "=", "floo_rsp_i", ".", "rsp", ";", "assign", "floo_wide_in", "=",
    "floo_wide_i", ".", "wide", ";", "assign", "floo_req_in_valid", "=", "floo_req_i", ".", "valid", ";",
    "assign", "floo_rsp_in_valid", "=", "floo_rsp_i", ".", "valid", ";", "assign", "floo_wide_in_valid", "=",
    "floo_wide_i", ".", "valid", ";", "assign", "floo_req_o", ".", "ready", "=", "floo_req_out_ready", ";",
    "assign", "floo_rsp_o", ".", "ready", "=", "floo_rsp_out_ready", ";", "assign", "floo_wide_o", ".",
    "ready", "=", "floo_wide_out_ready", ";", "end", "logic", "narrow_aw_out_queue_valid", ",",
    "narrow_aw_out_queue_ready", ";", "logic", "wide_aw_out_queue_valid", ",", "wide_aw_out_queue_ready",
    ";", "axi_narrow_out_aw_chan_t", "axi_narrow_aw_queue_out", ";", "axi_wide_out_aw_chan_t",
    "axi_wide_aw_queue_out", ";", "spill_register", "#", "(", ".", "T", "(", "axi_narrow_out_aw_chan_t", ")",
    ")", "i_aw_narrow_out_queue", "(", ".", "clk_i", "(", "clk_i", ")", ",", ".", "rst_ni", "(", "rst_ni",
    ")", ",", ".", "valid_i", "(", "axi_narrow_meta_buf_req_out", ".", "aw_valid", ")", ",", ".", "ready_o",
    "(", "narrow_aw_out_queue_ready", ")", ",", ".", "data_i", "(", "axi_narrow_meta_buf_req_out", ".", "aw",
    ")", ",", ".", "valid_o", "(", "narrow_aw_out_queue_valid", ")", ",", ".", "ready_i", "(",
    "axi_narrow_out_rsp_i", ".", "aw_ready", ")", ",", ".", "data_o", "(", "axi_narrow_aw_queue_out", ")",
    ")", ";", "spill_register", "#", "(", ".", "T", "(", "axi_wide_out_aw_chan_t", ")", ")",
    "i_aw_out_queue", "(", ".", "clk_i", "(", "clk_i", ")", ",", ".", "rst_ni", "(", "rst_ni", ")", ",", ".",
    "valid_i", "(", "axi_wide_meta_buf_req_out", ".", "aw_valid", ")", ",", ".", "ready_o", "(",
    "wide_aw_out_queue_ready", ")", ",", "."
  ]

def pin_nwChimney_9 : List String := [
    "data_i", "(", "axi_wide_meta_buf_req_out", ".", "aw", ")", ",", ".", "valid_o", "(",
    "wide_aw_out_queue_valid", ")", ",", ".", "ready_i", "(", "axi_wide_out_rsp_i", ".", "aw_ready", ")",
    ",", ".", "data_o", "(", "axi_wide_aw_queue_out", ")", ")", ";", "always_comb", "begin",
    "axi_narrow_out_req_o", "=", "axi_narrow_meta_buf_req_out", ";", "axi_narrow_out_req_o", ".", "aw_valid",
    "=", "narrow_aw_out_queue_valid", ";", "axi_narrow_out_req_o", ".", "aw", "=", "axi_narrow_aw_queue_out",
    ";", "axi_narrow_meta_buf_rsp_in", "=", "axi_narrow_out_rsp_i", ";", "axi_narrow_meta_buf_rsp_in", ".",
    "aw_ready", "=", "narrow_aw_out_queue_ready", ";", "axi_wide_out_req_o", "=",
    "axi_wide_meta_buf_req_out", ";", "axi_wide_out_req_o", ".", "aw_valid", "=", "wide_aw_out_queue_valid",
    ";", "axi_wide_out_req_o", ".", "aw", "=", "axi_wide_aw_queue_out", ";", "axi_wide_meta_buf_rsp_in", "=",
    "axi_wide_out_rsp_i", ";", "axi_wide_meta_buf_rsp_in", ".", "aw_ready", "=", "wide_aw_out_queue_ready",
    ";", "end", "axi_narrow_b_chan_t", "axi_narrow_b_rob_out", ",", "axi_narrow_b_rob_in", ";", "logic",
    "narrow_aw_rob_req_out", ";", "rob_idx_t", "narrow_aw_rob_idx_out", ";", "logic",
    "narrow_aw_rob_valid_out", ",", "narrow_aw_rob_ready_in", ";", "logic", "narrow_aw_rob_valid_in", ",",
    "narrow_aw_rob_ready_out", ";", "logic", "narrow_b_rob_valid_in", ",", "narrow_b_rob_ready_out", ";",
    "logic", "narrow_b_rob_valid_out", ",", "narrow_b_rob_ready_in", ";", "axi_wide_b_chan_t",
    "axi_wide_b_rob_out", ",", "axi_wide_b_rob_in", ";", "logic", "wide_aw_rob_req_out", ";", "rob_idx_t",
    "wide_aw_rob_idx_out", ";", "logic", "wide_aw_rob_valid_out", ",", "wide_aw_rob_ready_in", ";", "logic",
    "wide_b_rob_valid_in", ",", "wide_b_rob_ready_out", ";", "logic", "wide_b_rob_valid_out", ",",
    "wide_b_rob_ready_in", ";", "axi_narrow_r_chan_t", "axi_narrow_r_rob_out", ",", "axi_narrow_r_rob_in",
    ";", "logic", "narrow_ar_rob_req_out", ";", "rob_idx_t", "narrow_ar_rob_idx_out", ";", "logic",
    "narrow_ar_rob_valid_out", ",", "narrow_ar_rob_ready_in", ";", "logic", "narrow_r_rob_valid_in", ",",
    "narrow_r_rob_ready_out", ";", "logic", "narrow_r_rob_valid_out", ",", "narrow_r_rob_ready_in", ";",
    "axi_wide_r_chan_t", "axi_wide_r_rob_out", ",", "axi_wide_r_rob_in", ";", "logic", "wide_ar_rob_req_out",
    ";", "rob_idx_t", "wide_ar_rob_idx_out", ";", "logic", "wide_ar_rob_valid_out", ",",
    "wide_ar_rob_ready_in", ";", "logic", "wide_r_rob_valid_in", ",", "wide_r_rob_ready_out", ";", "logic",
    "wide_r_rob_valid_out", ",", "wide_r_rob_ready_in", ";", "logic", "narrow_b_rob_rob_req", ";", "logic",
    "narrow_b_rob_last", ";", "rob_idx_t", "narrow_b_rob_rob_idx"
  ]

def pin_nwChimney_10 : List String := [
    ";", "assign", "narrow_b_rob_rob_req", "=", "floo_rsp_in", ".", "narrow_b", ".", "hdr", ".", "rob_req",
    ";", "assign", "narrow_b_rob_rob_idx", "=", "floo_rsp_in", ".", "narrow_b", ".", "hdr", ".", "rob_idx",
    ";", "assign", "narrow_b_rob_last", "=", "floo_rsp_in", ".", "narrow_b", ".", "hdr", ".", "last", ";",
    "if", "(", "AtopSupport", ")", "begin", ":", "gen_atop_support", "assign", "narrow_aw_rob_valid_in", "=",
    "axi_narrow_aw_queue_valid_out", "&&", "(", "axi_narrow_aw_queue", ".", "atop", "==", "axi_pkg", "::",
    "ATOP_NONE", ")", ";", "assign", "axi_narrow_aw_queue_ready_in", "=", "(", "axi_narrow_aw_queue", ".",
    "atop", "==", "axi_pkg", "::", "ATOP_NONE", ")", "?", "narrow_aw_rob_ready_out", ":",
    "narrow_aw_rob_ready_in", ";", "end", "else", "begin", ":", "gen_no_atop_support", "assign",
    "narrow_aw_rob_valid_in", "=", "axi_narrow_aw_queue_valid_out", ";", "assign",
    "axi_narrow_aw_queue_ready_in", "=", "narrow_aw_rob_ready_in", ";", "`ASSERT", "(", "NoAtopSupport", ",",
    "!", "(", "axi_narrow_aw_queue_valid_out", "&&", "(", "axi_narrow_aw_queue", ".", "atop", "!=",
    "axi_pkg", "::", "ATOP_NONE", ")", ")", ")", "end", "floo_rob_wrapper", "#", "(", ".", "RoBType", "(",
    "ChimneyCfgN", ".", "BRoBType", ")", ",", ".", "RoBSize", "(", "ChimneyCfgN", ".", "BRoBSize", ")", ",",
    ".", "MaxRoTxnsPerId", "(", "ChimneyCfgN", ".", "MaxTxnsPerId", ")", ",", ".", "OnlyMetaData", "(",
    "1'b1", ")", ",", ".", "ax_len_t", "(", "axi_pkg", "::", "len_t", ")", ",", ".", "ax_id_t", "(",
    "axi_narrow_in_id_t", ")", ",", ".", "rsp_chan_t", "(", "axi_narrow_b_chan_t", ")", ",", ".",
    "rsp_meta_t", "(", "axi_narrow_b_chan_t", ")", ",", ".", "rob_idx_t", "(", "rob_idx_t", ")", ",", ".",
    "dest_t", "(", "id_t", ")", ",", ".", "sram_cfg_t", "(", "sram_cfg_t", ")", ")", "i_narrow_b_rob", "(",
    ".", "clk_i", ",", ".", "rst_ni", ",", ".", "sram_cfg_i", ",", ".", "ax_valid_i", "(",
    "narrow_aw_rob_valid_in"
  ]

def pin_nwChimney_11 : List String := [
    ")", ",", ".", "ax_ready_o", "(", "narrow_aw_rob_ready_out", ")", ",", ".", "ax_len_i", "(",
    "axi_narrow_aw_queue", ".", "len", ")", ",", ".", "ax_id_i", "(", "axi_narrow_aw_queue", ".", "id", ")",
    ",", ".", "ax_dest_i", "(", "id_out", "[", "NarrowAw", "]", ")", ",", ".", "ax_valid_o", "(",
    "narrow_aw_rob_valid_out", ")", ",", ".", "ax_ready_i", "(", "narrow_aw_rob_ready_in", ")", ",", ".",
    "ax_rob_req_o", "(", "narrow_aw_rob_req_out", ")", ",", ".", "ax_rob_idx_o", "(",
    "narrow_aw_rob_idx_out", ")", ",", ".", "rsp_valid_i", "(", "narrow_b_rob_valid_in", ")", ",", ".",
    "rsp_ready_o", "(", "narrow_b_rob_ready_out", ")", ",", ".", "rsp_i", "(", "axi_narrow_b_rob_in", ")",
    ",", ".", "rsp_rob_req_i", "(", "narrow_b_rob_rob_req", ")", ",", ".", "rsp_rob_idx_i", "(",
    "narrow_b_rob_rob_idx", ")", ",", ".", "rsp_last_i", "(", "narrow_b_rob_last", ")", ",", ".",
    "rsp_valid_o", "(", "narrow_b_rob_valid_out", ")", ",", ".", "rsp_ready_i", "(", "narrow_b_rob_ready_in",
    ")", ",", ".", "rsp_o", "(", "axi_narrow_b_rob_out", ")", ")", ";", "logic", "wide_b_rob_rob_req", ";",
    "logic", "wide_b_rob_last", ";", "rob_idx_t", "wide_b_rob_rob_idx", ";", "assign", "wide_b_rob_rob_req",
    "=", "floo_rsp_in", ".", "wide_b", ".", "hdr", ".", "rob_req", ";", "assign", "wide_b_rob_rob_idx", "=",
    "floo_rsp_in", ".", "wide_b", ".", "hdr", ".", "rob_idx", ";", "assign", "wide_b_rob_last", "=",
    "floo_rsp_in", ".", "wide_b", ".", "hdr", ".", "last", ";", "floo_rob_wrapper", "#", "(", ".", "RoBType",
    "(", "ChimneyCfgW", ".", "BRoBType", ")", ",", ".", "RoBSize", "(", "ChimneyCfgW", ".", "BRoBSize", ")",
    ",", ".", "MaxRoTxnsPerId", "(", "ChimneyCfgW", ".", "MaxTxnsPerId", ")", ",", ".", "OnlyMetaData", "(",
    "1'b1", ")", ",", ".", "ax_len_t", "(", "axi_pkg", "::", "len_t", ")", ",", ".", "ax_id_t", "(",
    "axi_wide_in_id_t", ")"
  ]

def pin_nwChimney_12 : List String := [
    ",", ".", "rsp_chan_t", "(", "axi_wide_b_chan_t", ")", ",", ".", "rsp_meta_t", "(", "axi_wide_b_chan_t",
    ")", ",", ".", "rob_idx_t", "(", "rob_idx_t", ")", ",", ".", "dest_t", "(", "id_t", ")", ",", ".",
    "sram_cfg_t", "(", "sram_cfg_t", ")", ")", "i_wide_b_rob", "(", ".", "clk_i", ",", ".", "rst_ni", ",",
    ".", "sram_cfg_i", ",", ".", "ax_valid_i", "(", "axi_wide_aw_queue_valid_out", ")", ",", ".",
    "ax_ready_o", "(", "axi_wide_aw_queue_ready_in", ")", ",", ".", "ax_len_i", "(", "axi_wide_aw_queue",
    ".", "len", ")", ",", ".", "ax_id_i", "(", "axi_wide_aw_queue", ".", "id", ")", ",", ".", "ax_dest_i",
    "(", "id_out", "[", "WideAw", "]", ")", ",", ".", "ax_valid_o", "(", "wide_aw_rob_valid_out", ")", ",",
    ".", "ax_ready_i", "(", "wide_aw_rob_ready_in", ")", ",", ".", "ax_rob_req_o", "(",
    "wide_aw_rob_req_out", ")", ",", ".", "ax_rob_idx_o", "(", "wide_aw_rob_idx_out", ")", ",", ".",
    "rsp_valid_i", "(", "wide_b_rob_valid_in", ")", ",", ".", "rsp_ready_o", "(", "wide_b_rob_ready_out",
    ")", ",", ".", "rsp_i", "(", "axi_wide_b_rob_in", ")", ",", ".", "rsp_rob_req_i", "(",
    "wide_b_rob_rob_req", ")", ",", ".", "rsp_rob_idx_i", "(", "wide_b_rob_rob_idx", ")", ",", ".",
    "rsp_last_i", "(", "wide_b_rob_last", ")", ",", ".", "rsp_valid_o", "(", "wide_b_rob_valid_out", ")",
    ",", ".", "rsp_ready_i", "(", "wide_b_rob_ready_in", ")", ",", ".", "rsp_o", "(", "axi_wide_b_rob_out",
    ")", ")", ";", "typedef", "struct", "packed", "{", "axi_narrow_in_id_t", "id", ";", "axi_narrow_user_t",
    "user", ";", "axi_pkg", "::", "resp_t", "resp", ";", "logic", "last", ";", "}", "narrow_r_rob_meta_t",
    ";", "typedef", "struct", "packed", "{", "axi_wide_in_id_t", "id", ";", "axi_wide_user_t", "user", ";",
    "axi_pkg", "::", "resp_t", "resp", ";", "logic", "last", ";", "}", "wide_r_rob_meta_t", ";"
  ]

def pin_nwChimney_13 : List String := [
    "logic", "narrow_r_rob_rob_req", ";", "logic", "narrow_r_rob_last", ";", "rob_idx_t",
    "narrow_r_rob_rob_idx", ";", "assign", "narrow_r_rob_rob_req", "=", "floo_rsp_in", ".", "narrow_r", ".",
    "hdr", ".", "rob_req", ";", "assign", "narrow_r_rob_rob_idx", "=", "floo_rsp_in", ".", "narrow_r", ".",
    "hdr", ".", "rob_idx", ";", "assign", "narrow_r_rob_last", "=", "floo_rsp_in", ".", "narrow_r", ".",
    "payload", ".", "last", ";", "floo_rob_wrapper", "#", "(", ".", "RoBType", "(", "ChimneyCfgN", ".",
    "RRoBType", ")", ",", ".", "RoBSize", "(", "ChimneyCfgN", ".", "RRoBSize", ")", ",", ".",
    "MaxRoTxnsPerId", "(", "ChimneyCfgN", ".", "MaxTxnsPerId", ")", ",", ".", "OnlyMetaData", "(", "1'b0",
    ")", ",", ".", "ax_len_t", "(", "axi_pkg", "::", "len_t", ")", ",", ".", "ax_id_t", "(",
    "axi_narrow_in_id_t", ")", ",", ".", "rsp_chan_t", "(", "axi_narrow_r_chan_t", ")", ",", ".",
    "rsp_data_t", "(", "axi_narrow_data_t", ")", ",", ".", "rsp_meta_t", "(", "narrow_r_rob_meta_t", ")",
    ",", ".", "rob_idx_t", "(", "rob_idx_t", ")", ",", ".", "dest_t", "(", "id_t", ")", ",", ".",
    "sram_cfg_t", "(", "sram_cfg_t", ")", ")", "i_narrow_r_rob", "(", ".", "clk_i", ",", ".", "rst_ni", ",",
    ".", "sram_cfg_i", ",", ".", "ax_valid_i", "(", "axi_narrow_ar_queue_valid_out", ")", ",", ".",
    "ax_ready_o", "(", "axi_narrow_ar_queue_ready_in", ")", ",", ".", "ax_len_i", "(", "axi_narrow_ar_queue",
    ".", "len", ")", ",", ".", "ax_id_i", "(", "axi_narrow_ar_queue", ".", "id", ")", ",", ".", "ax_dest_i",
    "(", "id_out", "[", "NarrowAr", "]", ")", ",", ".", "ax_valid_o", "(", "narrow_ar_rob_valid_out", ")",
    ",", ".", "ax_ready_i", "(", "narrow_ar_rob_ready_in", ")", ",", ".", "ax_rob_req_o", "(",
    "narrow_ar_rob_req_out", ")", ",", ".", "ax_rob_idx_o", "(", "narrow_ar_rob_idx_out", ")", ",", ".",
    "rsp_valid_i", "("
  ]

def pin_nwChimney_14 : List String := [
    "narrow_r_rob_valid_in", ")", ",", ".", "rsp_ready_o", "(", "narrow_r_rob_ready_out", ")", ",", ".",
    "rsp_i", "(", "axi_narrow_r_rob_in", ")", ",", ".", "rsp_rob_req_i", "(", "narrow_r_rob_rob_req", ")",
    ",", ".", "rsp_rob_idx_i", "(", "narrow_r_rob_rob_idx", ")", ",", ".", "rsp_last_i", "(",
    "narrow_r_rob_last", ")", ",", ".", "rsp_valid_o", "(", "narrow_r_rob_valid_out", ")", ",", ".",
    "rsp_ready_i", "(", "narrow_r_rob_ready_in", ")", ",", ".", "rsp_o", "(", "axi_narrow_r_rob_out", ")",
    ")", ";", "logic", "wide_r_rob_rob_req", ";", "logic", "wide_r_rob_last", ";", "rob_idx_t",
    "wide_r_rob_rob_idx", ";", "assign", "wide_r_rob_rob_req", "=", "floo_wide_in", ".", "wide_r", ".",
    "hdr", ".", "rob_req", ";", "assign", "wide_r_rob_rob_idx", "=", "floo_wide_in", ".", "wide_r", ".",
    "hdr", ".", "rob_idx", ";", "assign", "wide_r_rob_last", "=", "floo_wide_in", ".", "wide_r", ".",
    "payload", ".", "last", ";", "floo_rob_wrapper", "#", "(", ".", "RoBType", "(", "ChimneyCfgW", ".",
    "RRoBType", ")", ",", ".", "RoBSize", "(", "ChimneyCfgW", ".", "RRoBSize", ")", ",", ".",
    "MaxRoTxnsPerId", "(", "ChimneyCfgW", ".", "MaxTxnsPerId", ")", ",", ".", "OnlyMetaData", "(", "1'b0",
    ")", ",", ".", "ax_len_t", "(", "axi_pkg", "::", "len_t", ")", ",", ".", "ax_id_t", "(",
    "axi_wide_in_id_t", ")", ",", ".", "rsp_chan_t", "(", "axi_wide_r_chan_t", ")", ",", ".", "rsp_data_t",
    "(", "axi_wide_data_t", ")", ",", ".", "rsp_meta_t", "(", "wide_r_rob_meta_t", ")", ",", ".",
    "rob_idx_t", "(", "rob_idx_t", ")", ",", ".", "dest_t", "(", "id_t", ")", ",", ".", "sram_cfg_t", "(",
    "sram_cfg_t", ")", ")", "i_wide_r_rob", "(", ".", "clk_i", ",", ".", "rst_ni", ",", ".", "sram_cfg_i",
    ",", ".", "ax_valid_i", "(", "axi_wide_ar_queue_valid_out", ")", ",", ".", "ax_ready_o", "(",
    "axi_wide_ar_queue_ready_in", ")", ","
  ]

def pin_nwChimney_15 : List String := [
    ".", "ax_len_i", "(", "axi_wide_ar_queue", ".", "len", ")", ",", ".", "ax_id_i", "(",
    "axi_wide_ar_queue", ".", "id", ")", ",", ".", "ax_dest_i", "(", "id_out", "[", "WideAr", "]", ")", ",",
    ".", "ax_valid_o", "(", "wide_ar_rob_valid_out", ")", ",", ".", "ax_ready_i", "(",
    "wide_ar_rob_ready_in", ")", ",", ".", "ax_rob_req_o", "(", "wide_ar_rob_req_out", ")", ",", ".",
    "ax_rob_idx_o", "(", "wide_ar_rob_idx_out", ")", ",", ".", "rsp_valid_i", "(", "wide_r_rob_valid_in",
    ")", ",", ".", "rsp_ready_o", "(", "wide_r_rob_ready_out", ")", ",", ".", "rsp_i", "(",
    "axi_wide_r_rob_in", ")", ",", ".", "rsp_rob_req_i", "(", "wide_r_rob_rob_req", ")", ",", ".",
    "rsp_rob_idx_i", "(", "wide_r_rob_rob_idx", ")", ",", ".", "rsp_last_i", "(", "wide_r_rob_last", ")",
    ",", ".", "rsp_valid_o", "(", "wide_r_rob_valid_out", ")", ",", ".", "rsp_ready_i", "(",
    "wide_r_rob_ready_in", ")", ",", ".", "rsp_o", "(", "axi_wide_r_rob_out", ")", ")", ";", "axi_addr_t",
    "[", "NumNWAxiChannels", "-", "1", ":", "0", "]", "axi_req_addr", ";", "id_t", "[", "NumNWAxiChannels",
    "-", "1", ":", "0", "]", "axi_rsp_src_id", ";", "assign", "axi_req_addr", "[", "NarrowAw", "]", "=",
    "axi_narrow_aw_queue", ".", "addr", ";", "assign", "axi_req_addr", "[", "NarrowAr", "]", "=",
    "axi_narrow_ar_queue", ".", "addr", ";", "assign", "axi_req_addr", "[", "WideAw", "]", "=",
    "axi_wide_aw_queue", ".", "addr", ";", "assign", "axi_req_addr", "[", "WideAr", "]", "=",
    "axi_wide_ar_queue", ".", "addr", ";", "assign", "axi_rsp_src_id", "[", "NarrowB", "]", "=",
    "narrow_aw_buf_hdr_out", ".", "hdr", ".", "src_id", ";", "assign", "axi_rsp_src_id", "[", "NarrowR", "]",
    "=", "narrow_ar_buf_hdr_out", ".", "hdr", ".", "src_id", ";", "assign", "axi_rsp_src_id", "[", "WideB",
    "]", "=", "wide_aw_buf_hdr_out", ".", "hdr", ".", "src_id", ";"
  ]

def pin_nwChimney_16 : List String := [
    "assign", "axi_rsp_src_id", "[", "WideR", "]", "=", "wide_ar_buf_hdr_out", ".", "hdr", ".", "src_id",
    ";", "for", "(", "genvar", "ch", "=", "0", ";", "ch", "<", "NumNWAxiChannels", ";", "ch", "+", "+", ")",
    "begin", ":", "gen_route_comp", "localparam", "nw_ch_e", "Ch", "=", "nw_ch_e", "'(", "ch", ")", ";",
    "if", "(", "Ch", "==", "NarrowAw", "||", "Ch", "==", "NarrowAr", "||", "Ch", "==", "WideAw", "||", "Ch",
    "==", "WideAr", ")", "begin", ":", "gen_req_route_comp", "floo_route_comp", "#", "(", ".", "RouteCfg",
    "(", "RouteCfg", ")", ",", ".", "id_t", "(", "id_t", ")", ",", ".", "addr_t", "(", "axi_addr_t", ")",
    ",", ".", "addr_rule_t", "(", "sam_rule_t", ")", ",", ".", "route_t", "(", "route_t", ")", ")",
    "i_floo_req_route_comp", "(", ".", "clk_i", ",", ".", "rst_ni", ",", ".", "route_table_i", ",", ".",
    "addr_map_i", "(", "Sam", ")", ",", ".", "id_i", "(", "id_t", "'(", "'0", ")", ")", ",", ".", "addr_i",
    "(", "axi_req_addr", "[", "ch", "]", ")", ",", ".", "route_o", "(", "route_out", "[", "ch", "]", ")",
    ",", ".", "id_o", "(", "id_out", "[", "ch", "]", ")", ")", ";", "end", "else", "if", "(", "RouteCfg",
    ".", "RouteAlgo", "==", "floo_pkg", "::", "SourceRouting", "&&", "(", "Ch", "==", "NarrowB", "||", "Ch",
    "==", "NarrowR", "||", "Ch", "==", "WideB", "||", "Ch", "==", "WideR", ")", ")", "begin", ":",
    "gen_rsp_route_comp", "floo_route_comp", "#", "(", ".", "RouteCfg", "(", "RouteCfg", ")", ",", ".",
    "UseIdTable", "(", "1'b0", ")", ",", ".", "id_t", "(", "id_t", ")"
  ]

def pin_nwChimney_17 : List String := [
    ",", ".", "addr_t", "(", "axi_addr_t", ")", ",", ".", "addr_rule_t", "(", "sam_rule_t", ")", ",", ".",
    "route_t", "(", "route_t", ")", ")", "i_floo_rsp_route_comp", "(", ".", "clk_i", ",", ".", "rst_ni", ",",
    ".", "route_table_i", ",", ".", "addr_i", "(", "'0", ")", ",", ".", "addr_map_i", "(", "'0", ")", ",",
    ".", "id_i", "(", "axi_rsp_src_id", "[", "ch", "]", ")", ",", ".", "route_o", "(", "route_out", "[",
    "ch", "]", ")", ",", ".", "id_o", "(", "id_out", "[", "ch", "]", ")", ")", ";", "end", "end", "if", "(",
    "RouteCfg", ".", "RouteAlgo", "==", "floo_pkg", "::", "SourceRouting", ")", "begin", ":",
    "gen_route_field", "assign", "route_out", "[", "NarrowW", "]", "=", "narrow_aw_id_q", ";", "assign",
    "route_out", "[", "WideW", "]", "=", "wide_aw_id_q", ";", "assign", "dst_id", "=", "route_out", ";",
    "end", "else", "begin", ":", "gen_dst_field", "assign", "dst_id", "[", "NarrowAw", "]", "=", "id_out",
    "[", "NarrowAw", "]", ";", "assign", "dst_id", "[", "NarrowAr", "]", "=", "id_out", "[", "NarrowAr", "]",
    ";", "assign", "dst_id", "[", "WideAw", "]", "=", "id_out", "[", "WideAw", "]", ";", "assign", "dst_id",
    "[", "WideAr", "]", "=", "id_out", "[", "WideAr", "]", ";", "assign", "dst_id", "[", "NarrowB", "]", "=",
    "narrow_aw_buf_hdr_out", ".", "hdr", ".", "src_id", ";", "assign", "dst_id", "[", "NarrowR", "]", "=",
    "narrow_ar_buf_hdr_out", ".", "hdr", ".", "src_id", ";", "assign", "dst_id", "[", "WideB", "]", "=",
    "wide_aw_buf_hdr_out", ".", "hdr", ".", "src_id", ";", "assign", "dst_id", "[", "WideR", "]", "=",
    "wide_ar_buf_hdr_out", ".", "hdr"
  ]

def pin_nwChimney_18 : List String := [
    ".", "src_id", ";", "assign", "dst_id", "[", "NarrowW", "]", "=", "narrow_aw_id_q", ";", "assign",
    "dst_id", "[", "WideW", "]", "=", "wide_aw_id_q", ";", "end", "`FFL", "(", "narrow_aw_id_q", ",",
    "dst_id", "[", "NarrowAw", "]", ",", "axi_narrow_aw_queue_valid_out", "&&",
    "axi_narrow_aw_queue_ready_in", ",", "'0", ")", "`FFL", "(", "wide_aw_id_q", ",", "dst_id", "[",
    "WideAw", "]", ",", "axi_wide_aw_queue_valid_out", "&&", "axi_wide_aw_queue_ready_in", ",", "'0", ")",
    "always_comb", "begin", "floo_narrow_aw", "=", "'0", ";", "floo_narrow_aw", ".", "hdr", ".", "rob_req",
    "=", "narrow_aw_rob_req_out", ";", "floo_narrow_aw", ".", "hdr", ".", "rob_idx", "=", "rob_idx_t", "'(",
    "narrow_aw_rob_idx_out", ")", ";", "floo_narrow_aw", ".", "hdr", ".", "dst_id", "=", "dst_id", "[",
    "NarrowAw", "]", ";", "floo_narrow_aw", ".", "hdr", ".", "src_id", "=", "id_i", ";", "floo_narrow_aw",
    ".", "hdr", ".", "last", "=", "1'b0", ";", "floo_narrow_aw", ".", "hdr", ".", "axi_ch", "=", "NarrowAw",
    ";", "floo_narrow_aw", ".", "hdr", ".", "atop", "=", "axi_narrow_aw_queue", ".", "atop", "!=", "axi_pkg",
    "::", "ATOP_NONE", ";", "floo_narrow_aw", ".", "payload", "=", "axi_narrow_aw_queue", ";", "end",
    "always_comb", "begin", "floo_narrow_w", "=", "'0", ";", "floo_narrow_w", ".", "hdr", ".", "rob_req",
    "=", "narrow_aw_rob_req_out", ";", "floo_narrow_w", ".", "hdr", ".", "rob_idx", "=", "rob_idx_t", "'(",
    "narrow_aw_rob_idx_out", ")", ";", "floo_narrow_w", ".", "hdr", ".", "dst_id", "=", "dst_id", "[",
    "NarrowW", "]", ";", "floo_narrow_w", ".", "hdr", ".", "src_id", "=", "id_i", ";", "floo_narrow_w", ".",
    "hdr", ".", "last", "=", "axi_narrow_req_in", ".", "w", ".", "last", ";", "floo_narrow_w", ".", "hdr",
    ".", "axi_ch", "=", "NarrowW", ";", "floo_narrow_w", ".", "payload", "=", "axi_narrow_req_in"
  ]

def pin_nwChimney_19 : List String := [
    ".", "w", ";", "end", "always_comb", "begin", "floo_narrow_ar", "=", "'0", ";", "floo_narrow_ar", ".",
    "hdr", ".", "rob_req", "=", "narrow_ar_rob_req_out", ";", "floo_narrow_ar", ".", "hdr", ".", "rob_idx",
    "=", "rob_idx_t", "'(", "narrow_ar_rob_idx_out", ")", ";", "floo_narrow_ar", ".", "hdr", ".", "dst_id",
    "=", "dst_id", "[", "NarrowAr", "]", ";", "floo_narrow_ar", ".", "hdr", ".", "src_id", "=", "id_i", ";",
    "floo_narrow_ar", ".", "hdr", ".", "last", "=", "1'b1", ";", "floo_narrow_ar", ".", "hdr", ".", "axi_ch",
    "=", "NarrowAr", ";", "floo_narrow_ar", ".", "payload", "=", "axi_narrow_ar_queue", ";", "end",
    "always_comb", "begin", "floo_narrow_b", "=", "'0", ";", "floo_narrow_b", ".", "hdr", ".", "rob_req",
    "=", "narrow_aw_buf_hdr_out", ".", "hdr", ".", "rob_req", ";", "floo_narrow_b", ".", "hdr", ".",
    "rob_idx", "=", "rob_idx_t", "'(", "narrow_aw_buf_hdr_out", ".", "hdr", ".", "rob_idx", ")", ";",
    "floo_narrow_b", ".", "hdr", ".", "dst_id", "=", "dst_id", "[", "NarrowB", "]", ";", "floo_narrow_b",
    ".", "hdr", ".", "src_id", "=", "id_i", ";", "floo_narrow_b", ".", "hdr", ".", "last", "=", "1'b1", ";",
    "floo_narrow_b", ".", "hdr", ".", "axi_ch", "=", "NarrowB", ";", "floo_narrow_b", ".", "hdr", ".",
    "atop", "=", "narrow_aw_buf_hdr_out", ".", "hdr", ".", "atop", ";", "floo_narrow_b", ".", "payload", "=",
    "axi_narrow_meta_buf_rsp_out", ".", "b", ";", "floo_narrow_b", ".", "payload", ".", "id", "=",
    "narrow_aw_buf_hdr_out", ".", "id", ";", "end", "always_comb", "begin", "floo_narrow_r", "=", "'0", ";",
    "floo_narrow_r", ".", "hdr", ".", "rob_req", "=", "narrow_ar_buf_hdr_out", ".", "hdr", ".", "rob_req",
    ";", "floo_narrow_r", ".", "hdr", ".", "rob_idx", "=", "rob_idx_t", "'(", "narrow_ar_buf_hdr_out", ".",
    "hdr", "."
  ]

def pin_nwChimney_20 : List String := [
    "rob_idx", ")", ";", "floo_narrow_r", ".", "hdr", ".", "dst_id", "=", "dst_id", "[", "NarrowR", "]", ";",
    "floo_narrow_r", ".", "hdr", ".", "src_id", "=", "id_i", ";", "floo_narrow_r", ".", "hdr", ".", "axi_ch",
    "=", "NarrowR", ";", "floo_narrow_r", ".", "hdr", ".", "last", "=", "1'b1", ";", "floo_narrow_r", ".",
    "hdr", ".", "atop", "=", "narrow_ar_buf_hdr_out", ".", "hdr", ".", "atop", ";", "floo_narrow_r", ".",
    "payload", "=", "axi_narrow_meta_buf_rsp_out", ".", "r", ";", "floo_narrow_r", ".", "payload", ".", "id",
    "=", "narrow_ar_buf_hdr_out", ".", "id", ";", "end", "always_comb", "begin", "floo_wide_aw", "=", "'0",
    ";", "floo_wide_aw", ".", "hdr", ".", "rob_req", "=", "wide_aw_rob_req_out", ";", "floo_wide_aw", ".",
    "hdr", ".", "rob_idx", "=", "rob_idx_t", "'(", "wide_aw_rob_idx_out", ")", ";", "floo_wide_aw", ".",
    "hdr", ".", "dst_id", "=", "dst_id", "[", "WideAw", "]", ";", "floo_wide_aw", ".", "hdr", ".", "src_id",
    "=", "id_i", ";", "floo_wide_aw", ".", "hdr", ".", "last", "=", "1'b0", ";", "floo_wide_aw", ".", "hdr",
    ".", "axi_ch", "=", "WideAw", ";", "floo_wide_aw", ".", "payload", "=", "axi_wide_aw_queue", ";", "end",
    "always_comb", "begin", "floo_wide_w", "=", "'0", ";", "floo_wide_w", ".", "hdr", ".", "rob_req", "=",
    "wide_aw_rob_req_out", ";", "floo_wide_w", ".", "hdr", ".", "rob_idx", "=", "rob_idx_t", "'(",
    "wide_aw_rob_idx_out", ")", ";", "floo_wide_w", ".", "hdr", ".", "dst_id", "=", "dst_id", "[", "WideW",
    "]", ";", "floo_wide_w", ".", "hdr", ".", "src_id", "=", "id_i", ";", "floo_wide_w", ".", "hdr", ".",
    "last", "=", "axi_wide_req_in", ".", "w", ".", "last", ";", "floo_wide_w", ".", "hdr", ".", "axi_ch",
    "=", "WideW", ";"
  ]

def pin_nwChimney_21 : List String := [
    "floo_wide_w", ".", "payload", "=", "axi_wide_req_in", ".", "w", ";", "end", "always_comb", "begin",
    "floo_wide_ar", "=", "'0", ";", "floo_wide_ar", ".", "hdr", ".", "rob_req", "=", "wide_ar_rob_req_out",
    ";", "floo_wide_ar", ".", "hdr", ".", "rob_idx", "=", "rob_idx_t", "'(", "wide_ar_rob_idx_out", ")", ";",
    "floo_wide_ar", ".", "hdr", ".", "dst_id", "=", "dst_id", "[", "WideAr", "]", ";", "floo_wide_ar", ".",
    "hdr", ".", "src_id", "=", "id_i", ";", "floo_wide_ar", ".", "hdr", ".", "last", "=", "1'b1", ";",
    "floo_wide_ar", ".", "hdr", ".", "axi_ch", "=", "WideAr", ";", "floo_wide_ar", ".", "payload", "=",
    "axi_wide_ar_queue", ";", "end", "always_comb", "begin", "floo_wide_b", "=", "'0", ";", "floo_wide_b",
    ".", "hdr", ".", "rob_req", "=", "wide_aw_buf_hdr_out", ".", "hdr", ".", "rob_req", ";", "floo_wide_b",
    ".", "hdr", ".", "rob_idx", "=", "rob_idx_t", "'(", "wide_aw_buf_hdr_out", ".", "hdr", ".", "rob_idx",
    ")", ";", "floo_wide_b", ".", "hdr", ".", "dst_id", "=", "dst_id", "[", "WideB", "]", ";", "floo_wide_b",
    ".", "hdr", ".", "src_id", "=", "id_i", ";", "floo_wide_b", ".", "hdr", ".", "last", "=", "1'b1", ";",
    "floo_wide_b", ".", "hdr", ".", "axi_ch", "=", "WideB", ";", "floo_wide_b", ".", "payload", "=",
    "axi_wide_meta_buf_rsp_out", ".", "b", ";", "floo_wide_b", ".", "payload", ".", "id", "=",
    "wide_aw_buf_hdr_out", ".", "id", ";", "end", "always_comb", "begin", "floo_wide_r", "=", "'0", ";",
    "floo_wide_r", ".", "hdr", ".", "rob_req", "=", "wide_ar_buf_hdr_out", ".", "hdr", ".", "rob_req", ";",
    "floo_wide_r", ".", "hdr", ".", "rob_idx", "=", "rob_idx_t", "'(", "wide_ar_buf_hdr_out", ".", "hdr",
    ".", "rob_idx", ")", ";", "floo_wide_r", ".", "hdr", "."
  ]

def pin_nwChimney_22 : List String := [
    "dst_id", "=", "dst_id", "[", "WideR", "]", ";", "floo_wide_r", ".", "hdr", ".", "src_id", "=", "id_i",
    ";", "floo_wide_r", ".", "hdr", ".", "axi_ch", "=", "WideR", ";", "floo_wide_r", ".", "hdr", ".", "last",
    "=", "1'b1", ";", "floo_wide_r", ".", "payload", "=", "axi_wide_meta_buf_rsp_out", ".", "r", ";",
    "floo_wide_r", ".", "payload", ".", "id", "=", "wide_ar_buf_hdr_out", ".", "id", ";", "end",
    "always_comb", "begin", "narrow_aw_w_sel_d", "=", "narrow_aw_w_sel_q", ";", "wide_aw_w_sel_d", "=",
    "wide_aw_w_sel_q", ";", "if", "(", "axi_narrow_aw_queue_valid_out", "&&", "axi_narrow_aw_queue_ready_in",
    ")", "begin", "narrow_aw_w_sel_d", "=", "SelW", ";", "end", "if", "(", "axi_narrow_req_in", ".",
    "w_valid", "&&", "axi_narrow_rsp_out", ".", "w_ready", "&&", "axi_narrow_req_in", ".", "w", ".", "last",
    ")", "begin", "narrow_aw_w_sel_d", "=", "SelAw", ";", "end", "if", "(", "axi_wide_aw_queue_valid_out",
    "&&", "axi_wide_aw_queue_ready_in", ")", "begin", "wide_aw_w_sel_d", "=", "SelW", ";", "end", "if", "(",
    "axi_wide_req_in", ".", "w_valid", "&&", "axi_wide_rsp_out", ".", "w_ready", "&&", "axi_wide_req_in",
    ".", "w", ".", "last", ")", "begin", "wide_aw_w_sel_d", "=", "SelAw", ";", "end", "end", "`FF", "(",
    "narrow_aw_w_sel_q", ",", "narrow_aw_w_sel_d", ",", "SelAw", ")", "`FF", "(", "wide_aw_w_sel_q", ",",
    "wide_aw_w_sel_d", ",", "SelAw", ")", "assign", "floo_req_arb_req_in", "[", "NarrowW", "]", "=", "(",
    "narrow_aw_w_sel_q", "==", "SelAw", ")", "&&", "(", "narrow_aw_rob_valid_out", "||", "(", "(",
    "axi_narrow_aw_queue", ".", "atop", "!=", "axi_pkg", "::", "ATOP_NONE", ")", "&&",
    "axi_narrow_aw_queue_valid_out", ")", ")", "||", "(", "narrow_aw_w_sel_q", "==", "SelW", ")", "&&",
    "axi_narrow_req_in", ".", "w_valid", ";", "assign", "floo_req_arb_req_in", "[", "NarrowAw", "]", "=",
    "1'b0", ";", "assign", "floo_req_arb_req_in", "[", "NarrowAr", "]", "=", "narrow_ar_rob_valid_out"
  ]

def pin_nwChimney_23 : List String := [
    ";", "assign", "floo_req_arb_req_in", "[", "WideAr", "]", "=", "wide_ar_rob_valid_out", ";", "assign",
    "floo_rsp_arb_req_in", "[", "NarrowB", "]", "=", "axi_narrow_meta_buf_rsp_out", ".", "b_valid", ";",
    "assign", "floo_rsp_arb_req_in", "[", "NarrowR", "]", "=", "axi_narrow_meta_buf_rsp_out", ".", "r_valid",
    ";", "assign", "floo_rsp_arb_req_in", "[", "WideB", "]", "=", "axi_wide_meta_buf_rsp_out", ".",
    "b_valid", ";", "assign", "floo_wide_arb_req_in", "[", "WideW", "]", "=", "(", "wide_aw_w_sel_q", "==",
    "SelAw", ")", "&&", "wide_aw_rob_valid_out", "||", "(", "wide_aw_w_sel_q", "==", "SelW", ")", "&&",
    "axi_wide_req_in", ".", "w_valid", ";", "assign", "floo_wide_arb_req_in", "[", "WideAw", "]", "=",
    "1'b0", ";", "assign", "floo_wide_arb_req_in", "[", "WideR", "]", "=", "axi_wide_meta_buf_rsp_out", ".",
    "r_valid", ";", "assign", "narrow_aw_rob_ready_in", "=", "floo_req_arb_gnt_out", "[", "NarrowW", "]",
    "&&", "(", "narrow_aw_w_sel_q", "==", "SelAw", ")", ";", "assign", "axi_narrow_rsp_out", ".", "w_ready",
    "=", "floo_req_arb_gnt_out", "[", "NarrowW", "]", "&&", "(", "narrow_aw_w_sel_q", "==", "SelW", ")", ";",
    "assign", "narrow_ar_rob_ready_in", "=", "floo_req_arb_gnt_out", "[", "NarrowAr", "]", ";", "assign",
    "wide_aw_rob_ready_in", "=", "floo_wide_arb_gnt_out", "[", "WideW", "]", "&&", "(", "wide_aw_w_sel_q",
    "==", "SelAw", ")", ";", "assign", "axi_wide_rsp_out", ".", "w_ready", "=", "floo_wide_arb_gnt_out", "[",
    "WideW", "]", "&&", "(", "wide_aw_w_sel_q", "==", "SelW", ")", ";", "assign", "wide_ar_rob_ready_in",
    "=", "floo_req_arb_gnt_out", "[", "WideAr", "]", ";", "assign", "floo_req_arb_in", "[", "NarrowAw", "]",
    "=", "'0", ";", "assign", "floo_req_arb_in", "[", "NarrowW", "]", "=", "(", "narrow_aw_w_sel_q", "==",
    "SelAw", ")", "?", "floo_narrow_aw", ":", "floo_narrow_w", ";", "assign", "floo_req_arb_in", "[",
    "NarrowAr", "]", ".", "narrow_ar", "=", "floo_narrow_ar", ";", "assign", "floo_req_arb_in", "[",
    "WideAr", "]", ".", "wide_ar", "=", "floo_wide_ar"
  ]

def pin_nwChimney_24 : List String := [
    ";", "assign", "floo_rsp_arb_in", "[", "NarrowB", "]", ".", "narrow_b", "=", "floo_narrow_b", ";",
    "assign", "floo_rsp_arb_in", "[", "NarrowR", "]", ".", "narrow_r", "=", "floo_narrow_r", ";", "assign",
    "floo_rsp_arb_in", "[", "WideB", "]", ".", "wide_b", "=", "floo_wide_b", ";", "assign",
    "floo_wide_arb_in", "[", "WideAw", "]", "=", "'0", ";", "assign", "floo_wide_arb_in", "[", "WideW", "]",
    "=", "(", "wide_aw_w_sel_q", "==", "SelAw", ")", "?", "floo_wide_aw", ":", "floo_wide_w", ";", "assign",
    "floo_wide_arb_in", "[", "WideR", "]", ".", "wide_r", "=", "floo_wide_r", ";", "floo_wormhole_arbiter",
    "#", "(", ".", "NumRoutes", "(", "4", ")", ",", ".", "flit_t", "(", "floo_req_generic_flit_t", ")", ")",
    "i_req_wormhole_arbiter", "(", ".", "clk_i", ",", ".", "rst_ni", ",", ".", "valid_i", "(",
    "floo_req_arb_req_in", ")", ",", ".", "data_i", "(", "floo_req_arb_in", ")", ",", ".", "ready_o", "(",
    "floo_req_arb_gnt_out", ")", ",", ".", "data_o", "(", "floo_req_o", ".", "req", ")", ",", ".", "ready_i",
    "(", "floo_req_i", ".", "ready", ")", ",", ".", "valid_o", "(", "floo_req_o", ".", "valid", ")", ")",
    ";", "floo_wormhole_arbiter", "#", "(", ".", "NumRoutes", "(", "3", ")", ",", ".", "flit_t", "(",
    "floo_rsp_generic_flit_t", ")", ")", "i_rsp_wormhole_arbiter", "(", ".", "clk_i", ",", ".", "rst_ni",
    ",", ".", "valid_i", "(", "floo_rsp_arb_req_in", ")", ",", ".", "data_i", "(", "floo_rsp_arb_in", ")",
    ",", ".", "ready_o", "(", "floo_rsp_arb_gnt_out", ")", ",", ".", "data_o", "(", "floo_rsp_o", ".", "rsp",
    ")", ",", ".", "ready_i", "(", "floo_rsp_i", ".", "ready", ")", ",", ".", "valid_o", "(", "floo_rsp_o",
    ".", "valid", ")", ")", ";", "floo_wormhole_arbiter", "#", "("
  ]

def pin_nwChimney_25 : List String := [
    ".", "NumRoutes", "(", "3", ")", ",", ".", "flit_t", "(", "floo_wide_generic_flit_t", ")", ")",
    "i_wide_wormhole_arbiter", "(", ".", "clk_i", ",", ".", "rst_ni", ",", ".", "valid_i", "(",
    "floo_wide_arb_req_in", ")", ",", ".", "data_i", "(", "floo_wide_arb_in", ")", ",", ".", "ready_o", "(",
    "floo_wide_arb_gnt_out", ")", ",", ".", "data_o", "(", "floo_wide_o", ".", "wide", ")", ",", ".",
    "ready_i", "(", "floo_wide_i", ".", "ready", ")", ",", ".", "valid_o", "(", "floo_wide_o", ".", "valid",
    ")", ")", ";", "logic", "is_atop_b_rsp", ",", "is_atop_r_rsp", ";", "logic", "b_sel_atop", ",",
    "r_sel_atop", ";", "logic", "b_rob_pending_q", ",", "r_rob_pending_q", ";", "assign", "is_atop_b_rsp",
    "=", "AtopSupport", "&&", "axi_valid_in", "[", "NarrowB", "]", "&&", "floo_rsp_unpack_generic", ".",
    "hdr", ".", "atop", ";", "assign", "is_atop_r_rsp", "=", "AtopSupport", "&&", "axi_valid_in", "[",
    "NarrowR", "]", "&&", "floo_rsp_unpack_generic", ".", "hdr", ".", "atop", ";", "assign", "b_sel_atop",
    "=", "is_atop_b_rsp", "&&", "!", "b_rob_pending_q", ";", "assign", "r_sel_atop", "=", "is_atop_r_rsp",
    "&&", "!", "r_rob_pending_q", ";", "assign", "axi_narrow_unpack_aw", "=", "floo_req_in", ".",
    "narrow_aw", ".", "payload", ";", "assign", "axi_narrow_unpack_w", "=", "floo_req_in", ".", "narrow_w",
    ".", "payload", ";", "assign", "axi_narrow_unpack_ar", "=", "floo_req_in", ".", "narrow_ar", ".",
    "payload", ";", "assign", "axi_narrow_unpack_r", "=", "floo_rsp_in", ".", "narrow_r", ".", "payload",
    ";", "assign", "axi_narrow_unpack_b", "=", "floo_rsp_in", ".", "narrow_b", ".", "payload", ";", "assign",
    "axi_wide_unpack_aw", "=", "floo_wide_in", ".", "wide_aw", ".", "payload", ";", "assign",
    "axi_wide_unpack_w", "=", "floo_wide_in", ".", "wide_w", ".", "payload", ";", "assign",
    "axi_wide_unpack_ar", "=", "floo_req_in", ".", "wide_ar", ".", "payload", ";", "assign",
    "axi_wide_unpack_r"
  ]

def pin_nwChimney_26 : List String := [
    "=", "floo_wide_in", ".", "wide_r", ".", "payload", ";", "assign", "axi_wide_unpack_b", "=",
    "floo_rsp_in", ".", "wide_b", ".", "payload", ";", "assign", "floo_req_unpack_generic", "=",
    "floo_req_in", ".", "generic", ";", "assign", "floo_rsp_unpack_generic", "=", "floo_rsp_in", ".",
    "generic", ";", "assign", "floo_wide_unpack_generic", "=", "floo_wide_in", ".", "generic", ";", "assign",
    "axi_valid_in", "[", "NarrowAw", "]", "=", "floo_req_in_valid", "&&", "(", "floo_req_unpack_generic",
    ".", "hdr", ".", "axi_ch", "==", "NarrowAw", ")", ";", "assign", "axi_valid_in", "[", "NarrowW", "]",
    "=", "floo_req_in_valid", "&&", "(", "floo_req_unpack_generic", ".", "hdr", ".", "axi_ch", "==",
    "NarrowW", ")", ";", "assign", "axi_valid_in", "[", "NarrowAr", "]", "=", "floo_req_in_valid", "&&", "(",
    "floo_req_unpack_generic", ".", "hdr", ".", "axi_ch", "==", "NarrowAr", ")", ";", "assign",
    "axi_valid_in", "[", "WideAr", "]", "=", "floo_req_in_valid", "&&", "(", "floo_req_unpack_generic", ".",
    "hdr", ".", "axi_ch", "==", "WideAr", ")", ";", "assign", "axi_valid_in", "[", "NarrowB", "]", "=",
    "ChimneyCfgN", ".", "EnMgrPort", "&&", "floo_rsp_in_valid", "&&", "(", "floo_rsp_unpack_generic", ".",
    "hdr", ".", "axi_ch", "==", "NarrowB", ")", ";", "assign", "axi_valid_in", "[", "NarrowR", "]", "=",
    "ChimneyCfgN", ".", "EnMgrPort", "&&", "floo_rsp_in_valid", "&&", "(", "floo_rsp_unpack_generic", ".",
    "hdr", ".", "axi_ch", "==", "NarrowR", ")", ";", "assign", "axi_valid_in", "[", "WideB", "]", "=",
    "ChimneyCfgW", ".", "EnMgrPort", "&&", "floo_rsp_in_valid", "&&", "(", "floo_rsp_unpack_generic", ".",
    "hdr", ".", "axi_ch", "==", "WideB", ")", ";", "assign", "axi_valid_in", "[", "WideAw", "]", "=",
    "floo_wide_in_valid", "&&", "(", "floo_wide_unpack_generic", ".", "hdr", ".", "axi_ch", "==", "WideAw",
    ")", ";", "assign", "axi_valid_in", "[", "WideW", "]", "=", "floo_wide_in_valid"
  ]

def pin_nwChimney_27 : List String := [
    "&&", "(", "floo_wide_unpack_generic", ".", "hdr", ".", "axi_ch", "==", "WideW", ")", ";", "assign",
    "axi_valid_in", "[", "WideR", "]", "=", "ChimneyCfgW", ".", "EnMgrPort", "&&", "floo_wide_in_valid",
    "&&", "(", "floo_wide_unpack_generic", ".", "hdr", ".", "axi_ch", "==", "WideR", ")", ";", "assign",
    "axi_ready_out", "[", "NarrowAw", "]", "=", "axi_narrow_meta_buf_rsp_out", ".", "aw_ready", ";",
    "assign", "axi_ready_out", "[", "NarrowW", "]", "=", "axi_narrow_meta_buf_rsp_out", ".", "w_ready", ";",
    "assign", "axi_ready_out", "[", "NarrowAr", "]", "=", "axi_narrow_meta_buf_rsp_out", ".", "ar_ready",
    ";", "assign", "axi_ready_out", "[", "NarrowB", "]", "=", "narrow_b_rob_ready_out", "||", "b_sel_atop",
    "&&", "axi_narrow_req_in", ".", "b_ready", ";", "assign", "axi_ready_out", "[", "NarrowR", "]", "=",
    "narrow_r_rob_ready_out", "||", "r_sel_atop", "&&", "axi_narrow_req_in", ".", "r_ready", ";", "assign",
    "axi_ready_out", "[", "WideAw", "]", "=", "axi_wide_meta_buf_rsp_out", ".", "aw_ready", ";", "assign",
    "axi_ready_out", "[", "WideW", "]", "=", "axi_wide_meta_buf_rsp_out", ".", "w_ready", ";", "assign",
    "axi_ready_out", "[", "WideAr", "]", "=", "axi_wide_meta_buf_rsp_out", ".", "ar_ready", ";", "assign",
    "axi_ready_out", "[", "WideB", "]", "=", "wide_b_rob_ready_out", ";", "assign", "axi_ready_out", "[",
    "WideR", "]", "=", "wide_r_rob_ready_out", ";", "assign", "floo_req_out_ready", "=", "axi_ready_out",
    "[", "floo_req_unpack_generic", ".", "hdr", ".", "axi_ch", "]", ";", "assign", "floo_rsp_out_ready", "=",
    "axi_ready_out", "[", "floo_rsp_unpack_generic", ".", "hdr", ".", "axi_ch", "]", ";", "assign",
    "floo_wide_out_ready", "=", "axi_ready_out", "[", "floo_wide_unpack_generic", ".", "hdr", ".", "axi_ch",
    "]", ";", "assign", "axi_narrow_meta_buf_req_in", "=", "'{", "aw", ":", "axi_narrow_unpack_aw", ",",
    "aw_valid", ":", "axi_valid_in", "[", "NarrowAw", "]", ",", "w", ":", "axi_narrow_unpack_w", ",",
    "w_valid", ":", "axi_valid_in", "[", "NarrowW", "]", ",", "b_ready"
  ]

def pin_nwChimney_28 : List String := [
    ":", "floo_rsp_arb_gnt_out", "[", "NarrowB", "]", ",", "ar", ":", "axi_narrow_unpack_ar", ",",
    "ar_valid", ":", "axi_valid_in", "[", "NarrowAr", "]", ",", "r_ready", ":", "floo_rsp_arb_gnt_out", "[",
    "NarrowR", "]", "}", ";", "assign", "axi_wide_meta_buf_req_in", "=", "'{", "aw", ":",
    "axi_wide_unpack_aw", ",", "aw_valid", ":", "axi_valid_in", "[", "WideAw", "]", ",", "w", ":",
    "axi_wide_unpack_w", ",", "w_valid", ":", "axi_valid_in", "[", "WideW", "]", ",", "b_ready", ":",
    "floo_rsp_arb_gnt_out", "[", "WideB", "]", ",", "ar", ":", "axi_wide_unpack_ar", ",", "ar_valid", ":",
    "axi_valid_in", "[", "WideAr", "]", ",", "r_ready", ":", "floo_wide_arb_gnt_out", "[", "WideR", "]", "}",
    ";", "assign", "narrow_b_rob_valid_in", "=", "axi_valid_in", "[", "NarrowB", "]", "&&", "!",
    "is_atop_b_rsp", ";", "assign", "narrow_r_rob_valid_in", "=", "axi_valid_in", "[", "NarrowR", "]", "&&",
    "!", "is_atop_r_rsp", ";", "assign", "axi_narrow_rsp_out", ".", "b_valid", "=", "narrow_b_rob_valid_out",
    "||", "is_atop_b_rsp", ";", "assign", "axi_narrow_rsp_out", ".", "r_valid", "=",
    "narrow_r_rob_valid_out", "||", "is_atop_r_rsp", ";", "assign", "narrow_b_rob_ready_in", "=",
    "axi_narrow_req_in", ".", "b_ready", "&&", "!", "b_sel_atop", ";", "assign", "narrow_r_rob_ready_in",
    "=", "axi_narrow_req_in", ".", "r_ready", "&&", "!", "r_sel_atop", ";", "assign", "wide_b_rob_valid_in",
    "=", "axi_valid_in", "[", "WideB", "]", ";", "assign", "wide_r_rob_valid_in", "=", "axi_valid_in", "[",
    "WideR", "]", ";", "assign", "axi_wide_rsp_out", ".", "b_valid", "=", "wide_b_rob_valid_out", ";",
    "assign", "axi_wide_rsp_out", ".", "r_valid", "=", "wide_r_rob_valid_out", ";", "assign",
    "wide_b_rob_ready_in", "=", "axi_wide_req_in", ".", "b_ready", ";", "assign", "wide_r_rob_ready_in", "=",
    "axi_wide_req_in", ".", "r_ready", ";", "assign", "axi_narrow_b_rob_in", "=", "axi_narrow_unpack_b", ";",
    "assign", "axi_narrow_r_rob_in", "=", "axi_narrow_unpack_r", ";", "assign", "axi_narrow_rsp_out", ".",
    "b", "=", "(", "b_sel_atop", ")", "?"
  ]

def pin_nwChimney_29 : List String := [
    "axi_narrow_unpack_b", ":", "axi_narrow_b_rob_out", ";", "assign", "axi_narrow_rsp_out", ".", "r", "=",
    "(", "r_sel_atop", ")", "?", "axi_narrow_unpack_r", ":", "axi_narrow_r_rob_out", ";", "assign",
    "axi_wide_b_rob_in", "=", "axi_wide_unpack_b", ";", "assign", "axi_wide_r_rob_in", "=",
    "axi_wide_unpack_r", ";", "assign", "axi_wide_rsp_out", ".", "b", "=", "axi_wide_b_rob_out", ";",
    "assign", "axi_wide_rsp_out", ".", "r", "=", "axi_wide_r_rob_out", ";", "logic", "is_atop", ",",
    "atop_has_r_rsp", ";", "assign", "is_atop", "=", "AtopSupport", "&&", "axi_valid_in", "[", "NarrowAw",
    "]", "&&", "(", "axi_narrow_unpack_aw", ".", "atop", "!=", "axi_pkg", "::", "ATOP_NONE", ")", ";",
    "assign", "atop_has_r_rsp", "=", "AtopSupport", "&&", "axi_valid_in", "[", "NarrowAw", "]", "&&",
    "axi_narrow_unpack_aw", ".", "atop", "[", "axi_pkg", "::", "ATOP_R_RESP", "]", ";", "assign",
    "narrow_aw_buf_hdr_in", "=", "'{", "id", ":", "axi_narrow_unpack_aw", ".", "id", ",", "hdr", ":",
    "floo_req_unpack_generic", ".", "hdr", "}", ";", "assign", "narrow_ar_buf_hdr_in", "=", "'{", "id", ":",
    "(", "is_atop", "&&", "atop_has_r_rsp", ")", "?", "axi_narrow_unpack_aw", ".", "id", ":",
    "axi_narrow_unpack_ar", ".", "id", ",", "hdr", ":", "floo_req_unpack_generic", ".", "hdr", "}", ";",
    "assign", "wide_aw_buf_hdr_in", "=", "'{", "id", ":", "axi_wide_unpack_aw", ".", "id", ",", "hdr", ":",
    "floo_wide_unpack_generic", ".", "hdr", "}", ";", "assign", "wide_ar_buf_hdr_in", "=", "'{", "id", ":",
    "axi_wide_unpack_ar", ".", "id", ",", "hdr", ":", "floo_req_unpack_generic", ".", "hdr", "}", ";", "if",
    "(", "ChimneyCfgN", ".", "EnSbrPort", ")", "begin", ":", "gen_narrow_mgr_port", "floo_meta_buffer", "#",
    "(", ".", "InIdWidth", "(", "AxiCfgN", ".", "InIdWidth", ")", ",", ".", "OutIdWidth", "(", "AxiCfgN",
    ".", "OutIdWidth", ")", ",", ".", "MaxTxns", "(", "ChimneyCfgN", ".", "MaxTxns", ")", ",", "."
  ]

def pin_nwChimney_30 : List String := [
    "MaxUniqueIds", "(", "ChimneyCfgN", ".", "MaxUniqueIds", ")", ",", ".", "AtopSupport", "(",
    "AtopSupport", ")", ",", ".", "MaxAtomicTxns", "(", "MaxAtomicTxns", ")", ",", ".", "buf_t", "(",
    "narrow_meta_buf_t", ")", ",", ".", "axi_in_req_t", "(", "axi_narrow_in_req_t", ")", ",", ".",
    "axi_in_rsp_t", "(", "axi_narrow_in_rsp_t", ")", ",", ".", "axi_out_req_t", "(", "axi_narrow_out_req_t",
    ")", ",", ".", "axi_out_rsp_t", "(", "axi_narrow_out_rsp_t", ")", ")", "i_narrow_meta_buffer", "(", ".",
    "clk_i", ",", ".", "rst_ni", ",", ".", "test_enable_i", ",", ".", "axi_req_i", "(",
    "axi_narrow_meta_buf_req_in", ")", ",", ".", "axi_rsp_o", "(", "axi_narrow_meta_buf_rsp_out", ")", ",",
    ".", "axi_req_o", "(", "axi_narrow_meta_buf_req_out", ")", ",", ".", "axi_rsp_i", "(",
    "axi_narrow_meta_buf_rsp_in", ")", ",", ".", "aw_buf_i", "(", "narrow_aw_buf_hdr_in", ")", ",", ".",
    "ar_buf_i", "(", "narrow_ar_buf_hdr_in", ")", ",", ".", "r_buf_o", "(", "narrow_ar_buf_hdr_out", ")",
    ",", ".", "b_buf_o", "(", "narrow_aw_buf_hdr_out", ")", ")", ";", "end", "else", "begin", ":",
    "gen_no_narrow_mgr_port", "axi_err_slv", "#", "(", ".", "AxiIdWidth", "(", "AxiCfgN", ".", "InIdWidth",
    ")", ",", ".", "ATOPs", "(", "AtopSupport", ")", ",", ".", "axi_req_t", "(", "axi_narrow_req_t", ")",
    ",", ".", "axi_resp_t", "(", "axi_narrow_rsp_t", ")", ")", "i_axi_err_slv", "(", ".", "clk_i", "(",
    "clk_i", ")", ",", ".", "rst_ni", "(", "rst_ni", ")", ",", ".", "test_i", "(", "test_enable_i", ")", ",",
    ".", "slv_req_i", "(", "axi_narrow_meta_buf_req_in", ")", ",", ".", "slv_resp_o", "(",
    "axi_narrow_meta_buf_rsp_out", ")", ")", ";", "assign", "axi_narrow_meta_buf_req_out", "=", "'0", ";",
    "assign", "narrow_ar_buf_hdr_out", "=", "'0", ";", "assign", "narrow_aw_buf_hdr_out", "=", "'0", ";",
    "end", "if", "(", "ChimneyCfgW", ".", "EnSbrPort", ")", "begin", ":"
  ]

def pin_nwChimney_31 : List String := [
    "gen_wide_mgr_port", "floo_meta_buffer", "#", "(", ".", "InIdWidth", "(", "AxiCfgW", ".", "InIdWidth",
    ")", ",", ".", "OutIdWidth", "(", "AxiCfgW", ".", "OutIdWidth", ")", ",", ".", "MaxTxns", "(",
    "ChimneyCfgW", ".", "MaxTxns", ")", ",", ".", "MaxUniqueIds", "(", "ChimneyCfgW", ".", "MaxUniqueIds",
    ")", ",", ".", "AtopSupport", "(", "1'b0", ")", ",", ".", "MaxAtomicTxns", "(", "'0", ")", ",", ".",
    "buf_t", "(", "wide_meta_buf_t", ")", ",", ".", "axi_in_req_t", "(", "axi_wide_in_req_t", ")", ",", ".",
    "axi_in_rsp_t", "(", "axi_wide_in_rsp_t", ")", ",", ".", "axi_out_req_t", "(", "axi_wide_out_req_t", ")",
    ",", ".", "axi_out_rsp_t", "(", "axi_wide_out_rsp_t", ")", ")", "i_wide_meta_buffer", "(", ".", "clk_i",
    ",", ".", "rst_ni", ",", ".", "test_enable_i", ",", ".", "axi_req_i", "(", "axi_wide_meta_buf_req_in",
    ")", ",", ".", "axi_rsp_o", "(", "axi_wide_meta_buf_rsp_out", ")", ",", ".", "axi_req_o", "(",
    "axi_wide_meta_buf_req_out", ")", ",", ".", "axi_rsp_i", "(", "axi_wide_meta_buf_rsp_in", ")", ",", ".",
    "aw_buf_i", "(", "wide_aw_buf_hdr_in", ")", ",", ".", "ar_buf_i", "(", "wide_ar_buf_hdr_in", ")", ",",
    ".", "r_buf_o", "(", "wide_ar_buf_hdr_out", ")", ",", ".", "b_buf_o", "(", "wide_aw_buf_hdr_out", ")",
    ")", ";", "end", "else", "begin", ":", "gen_no_wide_mgr_port", "axi_err_slv", "#", "(", ".",
    "AxiIdWidth", "(", "AxiCfgW", ".", "InIdWidth", ")", ",", ".", "ATOPs", "(", "1'b1", ")", ",", ".",
    "axi_req_t", "(", "axi_wide_in_req_t", ")", ",", ".", "axi_resp_t", "(", "axi_wide_in_rsp_t", ")", ")",
    "i_axi_err_slv", "(", ".", "clk_i", "(", "clk_i", ")", ",", ".", "rst_ni", "(", "rst_ni", ")", ",", ".",
    "test_i", "(", "test_enable_i", ")", ",", ".", "slv_req_i", "(", "axi_wide_meta_buf_req_in", ")", ",",
    ".", "slv_resp_o"
  ]

def pin_nwChimney_32 : List String := [
    "(", "axi_wide_meta_buf_rsp_out", ")", ")", ";", "assign", "axi_wide_meta_buf_req_out", "=", "'0", ";",
    "assign", "wide_ar_buf_hdr_out", "=", "'0", ";", "assign", "wide_aw_buf_hdr_out", "=", "'0", ";", "end",
    "`FF", "(", "b_rob_pending_q", ",", "narrow_b_rob_valid_out", "&&", "!", "narrow_b_rob_ready_in", "&&",
    "!", "is_atop_b_rsp", ",", "'0", ")", "`FF", "(", "r_rob_pending_q", ",", "narrow_r_rob_valid_out", "&&",
    "!", "narrow_r_rob_ready_in", "&&", "!", "is_atop_r_rsp", ",", "'0", ")", "`ASSERT_INIT", "(",
    "AddrWidthMatch", ",", "AxiCfgN", ".", "AddrWidth", "==", "AxiCfgW", ".", "AddrWidth", ")",
    "`ASSERT_INIT", "(", "CutRspMatch", ",", "ChimneyCfgN", ".", "CutRsp", "==", "ChimneyCfgW", ".",
    "CutRsp", ")", "`ASSERT_INIT", "(", "ToSmallIdWidth", ",", "1", "+", "AtopSupport", "*", "MaxAtomicTxns",
    "<=", "2", "*", "*", "AxiCfgN", ".", "OutIdWidth", ")", "`ASSERT_INIT", "(", "NoNarrowMgrPortRobType",
    ",", "ChimneyCfgN", ".", "EnMgrPort", "||", "(", "ChimneyCfgN", ".", "BRoBType", "==", "floo_pkg", "::",
    "NoRoB", "&&", "ChimneyCfgN", ".", "RRoBType", "==", "floo_pkg", "::", "NoRoB", ")", ")", "`ASSERT_INIT",
    "(", "NoWideMgrPortRobType", ",", "ChimneyCfgW", ".", "EnMgrPort", "||", "(", "ChimneyCfgW", ".",
    "BRoBType", "==", "floo_pkg", "::", "NoRoB", "&&", "ChimneyCfgW", ".", "RRoBType", "==", "floo_pkg",
    "::", "NoRoB", ")", ")", "`ASSERT", "(", "NarrowReqOutStableValid", ",", "floo_req_o", ".", "valid",
    "&&", "!", "floo_req_i", ".", "ready", "|", "=", ">", "floo_req_o", ".", "valid", ")", "`ASSERT", "(",
    "NarrowReqInStableValid", ",", "floo_req_i", ".", "valid", "&&", "!", "floo_req_o", ".", "ready", "|",
    "=", ">", "floo_req_i", ".", "valid", ")", "`ASSERT", "(", "NarrowRspOutStableValid", ",", "floo_rsp_o",
    ".", "valid", "&&", "!", "floo_rsp_i", ".", "ready", "|", "=", ">", "floo_rsp_o", ".", "valid", ")",
    "`ASSERT"
  ]

def pin_nwChimney_33 : List String := [
    "(", "NarrowRspInStableValid", ",", "floo_rsp_i", ".", "valid", "&&", "!", "floo_rsp_o", ".", "ready",
    "|", "=", ">", "floo_rsp_i", ".", "valid", ")", "`ASSERT", "(", "WideOutStableValid", ",", "floo_wide_o",
    ".", "valid", "&&", "!", "floo_wide_i", ".", "ready", "|", "=", ">", "floo_wide_o", ".", "valid", ")",
    "`ASSERT", "(", "WideStableValid", ",", "floo_wide_i", ".", "valid", "&&", "!", "floo_wide_o", ".",
    "ready", "|", "=", ">", "floo_wide_i", ".", "valid", ")", "`ASSERT", "(", "NoNarrowMgrPortBResponse",
    ",", "ChimneyCfgN", ".", "EnMgrPort", "||", "!", "(", "floo_rsp_in_valid", "&&", "(",
    "floo_rsp_unpack_generic", ".", "hdr", ".", "axi_ch", "==", "NarrowB", ")", ")", ")", "`ASSERT", "(",
    "NoNarrowMgrPortRResponse", ",", "ChimneyCfgN", ".", "EnMgrPort", "||", "!", "(", "floo_rsp_in_valid",
    "&&", "(", "floo_rsp_unpack_generic", ".", "hdr", ".", "axi_ch", "==", "NarrowR", ")", ")", ")",
    "`ASSERT", "(", "NoWideMgrPortBResponse", ",", "ChimneyCfgW", ".", "EnMgrPort", "||", "!", "(",
    "floo_rsp_in_valid", "&&", "(", "floo_rsp_unpack_generic", ".", "hdr", ".", "axi_ch", "==", "WideB", ")",
    ")", ")", "`ASSERT", "(", "NoWideMgrPortRResponse", ",", "ChimneyCfgW", ".", "EnMgrPort", "||", "!", "(",
    "floo_wide_in_valid", "&&", "(", "floo_wide_unpack_generic", ".", "hdr", ".", "axi_ch", "==", "WideR",
    ")", ")", ")", "`ASSERT", "(", "NoNarrowSbrPortAwRequest", ",", "ChimneyCfgN", ".", "EnSbrPort", "||",
    "!", "(", "floo_req_in_valid", "&&", "(", "floo_req_unpack_generic", ".", "hdr", ".", "axi_ch", "==",
    "NarrowAw", ")", ")", ")", "`ASSERT", "(", "NoNarrowSbrPortArRequest", ",", "ChimneyCfgN", ".",
    "EnSbrPort", "||", "!", "(", "floo_req_in_valid", "&&", "(", "floo_req_unpack_generic", ".", "hdr", ".",
    "axi_ch", "==", "NarrowAr", ")", ")", ")", "`ASSERT", "(", "NoNarrowSbrPortWRequest", ",", "ChimneyCfgN",
    "."
  ]

def pin_nwChimney_34 : List String := [
    "EnSbrPort", "||", "!", "(", "floo_req_in_valid", "&&", "(", "floo_req_unpack_generic", ".", "hdr", ".",
    "axi_ch", "==", "NarrowW", ")", ")", ")", "`ASSERT", "(", "NoWideSbrPortAwRequest", ",", "ChimneyCfgW",
    ".", "EnSbrPort", "||", "!", "(", "floo_req_in_valid", "&&", "(", "floo_req_unpack_generic", ".", "hdr",
    ".", "axi_ch", "==", "WideAw", ")", ")", ")", "`ASSERT", "(", "NoWideSbrPortArRequest", ",",
    "ChimneyCfgW", ".", "EnSbrPort", "||", "!", "(", "floo_req_in_valid", "&&", "(",
    "floo_req_unpack_generic", ".", "hdr", ".", "axi_ch", "==", "WideAr", ")", ")", ")", "`ASSERT", "(",
    "NoWideSbrPortWRequest", ",", "ChimneyCfgW", ".", "EnSbrPort", "||", "!", "(", "floo_wide_in_valid",
    "&&", "(", "floo_wide_unpack_generic", ".", "hdr", ".", "axi_ch", "==", "WideW", ")", ")", ")",
    "endmodule"
  ]

def pin_nwChimney : List String := pin_nwChimney_0 ++ pin_nwChimney_1 ++ pin_nwChimney_2 ++ pin_nwChimney_3 ++ pin_nwChimney_4 ++ pin_nwChimney_5 ++ pin_nwChimney_6 ++ pin_nwChimney_7 ++ pin_nwChimney_8 ++ pin_nwChimney_9 ++ pin_nwChimney_10 ++ pin_nwChimney_11 ++ pin_nwChimney_12 ++ pin_nwChimney_13 ++ pin_nwChimney_14 ++ pin_nwChimney_15 ++ pin_nwChimney_16 ++ pin_nwChimney_17 ++ pin_nwChimney_18 ++ pin_nwChimney_19 ++ pin_nwChimney_20 ++ pin_nwChimney_21 ++ pin_nwChimney_22 ++ pin_nwChimney_23 ++ pin_nwChimney_24 ++ pin_nwChimney_25 ++ pin_nwChimney_26 ++ pin_nwChimney_27 ++ pin_nwChimney_28 ++ pin_nwChimney_29 ++ pin_nwChimney_30 ++ pin_nwChimney_31 ++ pin_nwChimney_32 ++ pin_nwChimney_33 ++ pin_nwChimney_34


/-- the tokens of this part of the working tree's RTL are the pinned ones -/
theorem nwChimney_pinned : rtlFacts.nwChimney = pin_nwChimney := rfl

end FlooVerif.HwTie
