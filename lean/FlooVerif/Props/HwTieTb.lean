/-
  Pinned RTL (written by harness/mk_rtl_pins.py from the tree the semantics was read against):
  how the mesh testbenches derive the job file and the memory window of the DMA node at (x, y): the statements
mentioning `Index`, `JobId`, `MemBaseAddr` and the generate loops around them.
-/
import FlooVerif.Gen.RtlFacts
namespace FlooVerif.HwTie
open FlooVerif Rtl Gen

def pin_tbJobs_0 : List String := [
    "tb_floo_axi_mesh.sv", "for", "(", "genvar", "x", "=", "0", ";", "x", "+", "+", ")", "begin", ":",
    "gen_x", "for", "(", "genvar", "y", "=", "0", ";", "localparam", "int", "unsigned", "Index", "=", "x",
    "*", "NumY", "+", "y", ";", "localparam", "addr_t", "MemBaseAddr", "=", "Sam", "[", "ClusterX0Y0", "+",
    "Index", "]", ".", "start_addr", ";", "floo_dma_test_node", "#", "(", ".", "TA", "(", "ApplTime", ")",
    ",", ".", "TT", "(", "TestTime", ")", ",", ".", "AxiCfg", "(", "axi_cfg_swap_iw", "(", "AxiCfg", ")",
    ")", ",", ".", "MemBaseAddr", "(", "MemBaseAddr", ")", ",", ".", "MemSize", "(", "MemSize", ")", ",",
    ".", "NumAxInFlight", "(", "2", "*", "floo_test_pkg", "::", "ChimneyCfg", ".", "MaxTxnsPerId", ")", ",",
    ".", "axi_in_req_t", "(", "axi_out_req_t", ")", ",", ".", "axi_in_rsp_t", "(", "axi_out_rsp_t", ")", ",",
    ".", "axi_out_req_t", "(", "axi_in_req_t", ")", ",", ".", "axi_out_rsp_t", "(", "axi_in_rsp_t", ")", ",",
    ".", "JobId", "(", "Index", ")", ")", "i_dma_node", "(", ".", "clk_i", "(", "clk", ")", ",", ".",
    "rst_ni", "(", "rst_n", ")", ",", ".", "axi_in_req_i", "(", "cluster_out_req", "[", "x", "]", "[", "y",
    "]", ")", ",", ".", "axi_in_rsp_o", "(", "cluster_out_rsp", "[", "x", "]", "[", "y", "]", ")", ",", ".",
    "axi_out_req_o", "(", "cluster_in_req", "[", "x", "]", "[", "y", "]", ")", ",", ".", "axi_out_rsp_i",
    "(", "cluster_in_rsp", "[", "x", "]", "[", "y", "]", ")", ",", ".", "end_of_sim_o", "(", "end_of_sim",
    "[", "x", "]", "[", "y", "]", ")", ")", ";"
  ]


def pin_tbJobs_1_0 : List String := [
    "tb_floo_nw_mesh.sv", "for", "(", "genvar", "x", "=", "0", ";", "x", "+", "+", ")", "begin", ":",
    "gen_x", "for", "(", "genvar", "y", "=", "0", ";", "localparam", "int", "unsigned", "Index", "=", "x",
    "*", "NumY", "+", "y", ";", "localparam", "addr_t", "MemBaseAddr", "=", "Sam", "[", "ClusterX0Y0", "+",
    "Index", "]", ".", "start_addr", ";", "floo_dma_test_node", "#", "(", ".", "TA", "(", "ApplTime", ")",
    ",", ".", "TT", "(", "TestTime", ")", ",", ".", "AxiCfg", "(", "axi_cfg_swap_iw", "(", "AxiCfgN", ")",
    ")", ",", ".", "MemBaseAddr", "(", "MemBaseAddr", ")", ",", ".", "MemSize", "(", "MemSize", ")", ",",
    ".", "NumAxInFlight", "(", "2", "*", "floo_test_pkg", "::", "ChimneyCfg", ".", "MaxTxnsPerId", ")", ",",
    ".", "axi_in_req_t", "(", "axi_narrow_out_req_t", ")", ",", ".", "axi_in_rsp_t", "(",
    "axi_narrow_out_rsp_t", ")", ",", ".", "axi_out_req_t", "(", "axi_narrow_in_req_t", ")", ",", ".",
    "axi_out_rsp_t", "(", "axi_narrow_in_rsp_t", ")", ",", ".", "JobId", "(", "100", "+", "Index", ")", ")",
    "i_narrow_dma_node", "(", ".", "clk_i", "(", "clk", ")", ",", ".", "rst_ni", "(", "rst_n", ")", ",", ".",
    "axi_in_req_i", "(", "cluster_narrow_out_req", "[", "x", "]", "[", "y", "]", ")", ",", ".",
    "axi_in_rsp_o", "(", "cluster_narrow_out_rsp", "[", "x", "]", "[", "y", "]", ")", ",", ".",
    "axi_out_req_o", "(", "cluster_narrow_in_req", "[", "x", "]", "[", "y", "]", ")", ",", ".",
    "axi_out_rsp_i", "(", "cluster_narrow_in_rsp", "[", "x", "]", "[", "y", "]", ")", ",", ".",
    "end_of_sim_o", "(", "end_of_sim", "[", "x", "]", "[", "y", "]", "[", "0"
  ]

def pin_tbJobs_1_1 : List String := [
    "]", ")", ")", ";", "floo_dma_test_node", "#", "(", ".", "TA", "(", "ApplTime", ")", ",", ".", "TT", "(",
    "TestTime", ")", ",", ".", "AxiCfg", "(", "axi_cfg_swap_iw", "(", "AxiCfgW", ")", ")", ",", ".",
    "MemBaseAddr", "(", "MemBaseAddr", ")", ",", ".", "MemSize", "(", "MemSize", ")", ",", ".",
    "NumAxInFlight", "(", "2", "*", "floo_test_pkg", "::", "ChimneyCfg", ".", "MaxTxnsPerId", ")", ",", ".",
    "axi_in_req_t", "(", "axi_wide_out_req_t", ")", ",", ".", "axi_in_rsp_t", "(", "axi_wide_out_rsp_t", ")",
    ",", ".", "axi_out_req_t", "(", "axi_wide_in_req_t", ")", ",", ".", "axi_out_rsp_t", "(",
    "axi_wide_in_rsp_t", ")", ",", ".", "JobId", "(", "Index", ")", ")", "i_wide_dma_node", "(", ".",
    "clk_i", "(", "clk", ")", ",", ".", "rst_ni", "(", "rst_n", ")", ",", ".", "axi_in_req_i", "(",
    "cluster_wide_out_req", "[", "x", "]", "[", "y", "]", ")", ",", ".", "axi_in_rsp_o", "(",
    "cluster_wide_out_rsp", "[", "x", "]", "[", "y", "]", ")", ",", ".", "axi_out_req_o", "(",
    "cluster_wide_in_req", "[", "x", "]", "[", "y", "]", ")", ",", ".", "axi_out_rsp_i", "(",
    "cluster_wide_in_rsp", "[", "x", "]", "[", "y", "]", ")", ",", ".", "end_of_sim_o", "(", "end_of_sim",
    "[", "x", "]", "[", "y", "]", "[", "1", "]", ")", ")", ";"
  ]

def pin_tbJobs_1 : List String := pin_tbJobs_1_0 ++ pin_tbJobs_1_1


def pin_tbJobs : List (List String) := [pin_tbJobs_0, pin_tbJobs_1]

/-- the tokens of this part of the working tree's RTL are the pinned ones -/
theorem tbJobs_pinned : rtlFacts.tbJobs = pin_tbJobs := rfl

end FlooVerif.HwTie
