/-
  Tie of `Hw.allowed` to the route masking of hw/floo_router.sv: the two conditions under which the router
  masks a route from input `in_route` to output `out_route` (regenerated as expressions on every run),
  with the parameters at their defaults (`NoLoopback = 1`, `XYRouteOpt = 1`: `rtl_shape` pins the defaults),
  hold exactly when `Hw.allowed` says no.
-/
import FlooVerif.Gen.RtlFacts
import FlooVerif.Hw
namespace FlooVerif.HwTie
open FlooVerif Rtl Hw Gen

def envMask (xy : Bool) (inP outP : Nat) : Env MaskName
  | .in_route => some inP | .out_route => some outP
  | .NoLoopback => some 1 | .XYRouteOpt => some 1
  | .XYRouting => some 2 | .RouteAlgo => some (if xy then 2 else 0)
  | .South => some South | .North => some North | .East => some East | .West => some West

/-- **floo_router masks a route exactly when `Hw.allowed` forbids it** -/
theorem mask_agrees (xy : Bool) (inP outP : Nat) :
    (eval (envMask xy inP outP) rtlMaskLoop = some 1 ∨ eval (envMask xy inP outP) rtlMaskXY = some 1) ↔
      allowed xy inP outP = false := by
  simp only [rtlMaskLoop, rtlMaskXY, eval, evalOp, envMask, allowed]
  cases xy
  · simp [Int.natCast_inj]
  · simp [Int.natCast_inj, Decidable.or_iff_not_imp_left]

end FlooVerif.HwTie
