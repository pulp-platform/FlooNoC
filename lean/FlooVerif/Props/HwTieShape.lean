/-
  The RTL fragments Hw.lean was written against, token by token (see HwTie.lean).
-/
import FlooVerif.Gen.RtlFacts
import FlooVerif.Hw
namespace FlooVerif.HwTie
open FlooVerif Rtl Hw Gen

/-! ### the fragments Hw.lean was written against, token by token

`Hw.decideId` reads `gen_id_table` as "decode `hdr.dst_id` with `addr_decode` over `id_route_map_i`, the index is the
output port"; `Hw.allowed` reads the masking in floo_router as "no loop-back; under XY no turn from North/South
to East/West"; `Hw.srcPop` relies on `RouteSelWidth = $clog2(NumRoutes)` with `.NumRoutes(NumOutput)`;
the request destination and the source route come out of floo_route_comp as `Hw.lean` / `Check*.lean` assume
(`addr_decode` over `addr_map_i`; `route_table_i[id_o]`); the chimneys hand the request address to the first
and the requester's identity to the second `floo_route_comp` (`chimneyComp`). -/

def pin_xyRest : List String := [
    "id_t", "id_in", ";", "assign", "id_in", "=", "id_t", "'(", "channel_i", ".", "hdr", ".", "dst_id", ")",
    ";", "assign", "channel_o", "=", "channel_i", ";"
  ]

def pin_routeSelWidth : List String := [
    "$clog2", "(", "NumRoutes", ")"
  ]

def pin_idBlock : List String := [
    "logic", "[", "RouteSelWidth", "-", "1", ":", "0", "]", "id_table_result", ";", "assign", "channel_o",
    "=", "channel_i", ";", "addr_decode", "#", "(", ".", "NoIndices", "(", "NumRoutes", ")", ",", ".",
    "NoRules", "(", "NumAddrRules", ")", ",", ".", "addr_t", "(", "id_t", ")", ",", ".", "rule_t", "(",
    "addr_rule_t", ")", ",", ".", "Napot", "(", "0", ")", ")", "i_id_decode", "(", ".", "addr_i", "(",
    "channel_i", ".", "hdr", ".", "dst_id", ")", ",", ".", "addr_map_i", "(", "id_route_map_i", ")", ",",
    ".", "idx_o", "(", "id_table_result", ")", ",", ".", "dec_valid_o", "(", ")", ",", ".", "dec_error_o",
    "(", ")", ",", ".", "default_idx_i", "(", "'0", ")", ",", ".", "en_default_idx_i", "(", "'0", ")", ")",
    ";", "always_comb", "begin", ":", "proc_route_sel", "route_sel_id", "=", "id_table_result", ";",
    "route_sel", "=", "'0", ";", "route_sel", "[", "id_table_result", "]", "=", "1'b1", ";", "end"
  ]

def pin_routerSelect : List String := [
    "floo_route_select", "#", "(", ".", "NumRoutes", "(", "NumOutput", ")", ",", ".", "flit_t", "(",
    "flit_t", ")", ",", ".", "RouteAlgo", "(", "RouteAlgo", ")", ",", ".", "IdWidth", "(", "IdWidth", ")",
    ",", ".", "id_t", "(", "id_t", ")", ",", ".", "NumAddrRules", "(", "NumAddrRules", ")", ",", ".",
    "addr_rule_t", "(", "addr_rule_t", ")", ")", "i_route_select", "(", ".", "clk_i", ",", ".", "rst_ni",
    ",", ".", "test_enable_i", ",", ".", "xy_id_i", "(", "xy_id_i", ")", ",", ".", "id_route_map_i", "(",
    "id_route_map_i", ")", ",", ".", "channel_i", "(", "in_data", "[", "in_route", "]", "[", "v_chan", "]",
    ")", ",", ".", "valid_i", "(", "in_valid", "[", "in_route", "]", "[", "v_chan", "]", ")", ",", ".",
    "ready_i", "(", "in_ready", "[", "in_route", "]", "[", "v_chan", "]", ")", ",", ".", "channel_o", "(",
    "in_routed_data", "[", "in_route", "]", "[", "v_chan", "]", ")", ",", ".", "route_sel_o", "(",
    "route_mask", "[", "in_route", "]", "[", "v_chan", "]", ")", ",", ".", "route_sel_id_o", "(", ")", ")",
    ";"
  ]

def pin_routerMask : List String := [
    "localparam", "int", "unsigned", "NumInputLimited", "=", "NoLoopback", "?", "NumInput", "-", "1", ":",
    "NumInput", ";", "logic", "[", "NumOutput", "-", "1", ":", "0", "]", "[", "NumVirtChannels", "-", "1",
    ":", "0", "]", "[", "NumInputLimited", "-", "1", ":", "0", "]", "masked_valid", ",", "masked_ready", ";",
    "logic", "[", "NumInput", "-", "1", ":", "0", "]", "[", "NumVirtChannels", "-", "1", ":", "0", "]", "[",
    "NumOutput", "-", "1", ":", "0", "]", "masked_all_ready", ";", "flit_t", "[", "NumOutput", "-", "1", ":",
    "0", "]", "[", "NumVirtChannels", "-", "1", ":", "0", "]", "[", "NumInputLimited", "-", "1", ":", "0",
    "]", "masked_data", ";", "for", "(", "genvar", "in_route", "=", "0", ";", "in_route", "<", "NumInput",
    ";", "in_route", "+", "+", ")", "begin", ":", "gen_hs_input", "for", "(", "genvar", "v_chan", "=", "0",
    ";", "v_chan", "<", "NumVirtChannels", ";", "v_chan", "+", "+", ")", "begin", ":", "gen_hs_virt", "for",
    "(", "genvar", "out_route", "=", "0", ";", "out_route", "<", "NumOutput", ";", "out_route", "+", "+",
    ")", "begin", ":", "gen_hs_output", "localparam", "int", "unsigned", "ModInRoute", "=", "in_route", "<",
    "out_route", "&&", "NoLoopback", "?", "in_route", ":", "in_route", "-", "1", ";", "if", "(", "in_route",
    "==", "out_route", "&&", "NoLoopback", ")", "begin", ":", "gen_inout_identical", "assign",
    "masked_all_ready", "[", "in_route", "]", "[", "v_chan", "]", "[", "out_route", "]", "=", "'0", ";",
    "end", "else", "if", "(", "(", "RouteAlgo", "==", "XYRouting", ")", "&&", "XYRouteOpt", "&&", "(",
    "in_route", "==", "South", "||", "in_route", "==", "North", ")", "&&", "(", "out_route", "==", "East",
    "||", "out_route", "==", "West", ")", ")", "begin", ":", "gen_xy_opt", "assign", "masked_all_ready", "[",
    "in_route", "]", "[", "v_chan", "]", "[", "out_route", "]", "=", "'0", ";", "assign", "masked_valid",
    "[", "out_route", "]", "[", "v_chan", "]", "[", "ModInRoute", "]", "=", "'0", ";", "assign",
    "masked_data", "[", "out_route", "]", "[", "v_chan", "]", "[", "ModInRoute", "]", "=", "'0", ";", "end",
    "else", "begin", ":", "gen_default", "assign", "masked_all_ready", "[", "in_route", "]", "[", "v_chan",
    "]", "[", "out_route", "]", "=", "masked_ready", "[", "out_route", "]", "[", "v_chan", "]", "[",
    "ModInRoute", "]", ";", "assign", "masked_valid", "[", "out_route", "]", "[", "v_chan", "]", "[",
    "ModInRoute", "]", "=", "in_valid", "[", "in_route", "]", "[", "v_chan", "]", "&", "route_mask", "[",
    "in_route", "]", "[", "v_chan", "]", "[", "out_route", "]", ";", "assign", "masked_data", "[",
    "out_route", "]", "[", "v_chan", "]", "[", "ModInRoute", "]", "=", "in_routed_data", "[", "in_route",
    "]", "[", "v_chan", "]", ";", "end"
  ]

def pin_compCond : List String := [
    "if", "(", "UseIdTable", "&&", "(", "(", "RouteCfg", ".", "RouteAlgo", "==", "IdTable", ")", "||", "(",
    "RouteCfg", ".", "RouteAlgo", "==", "XYRouting", ")", "||", "(", "RouteCfg", ".", "RouteAlgo", "==",
    "SourceRouting", ")", ")", ")"
  ]

def pin_compTable : List String := [
    "logic", "dec_error", ";", "localparam", "int", "unsigned", "MaxPossibleId", "=", "1", "<<", "$bits",
    "(", "id_o", ")", ";", "addr_decode", "#", "(", ".", "NoIndices", "(", "MaxPossibleId", ")", ",", ".",
    "NoRules", "(", "RouteCfg", ".", "NumSamRules", ")", ",", ".", "addr_t", "(", "addr_t", ")", ",", ".",
    "rule_t", "(", "addr_rule_t", ")", ",", ".", "idx_t", "(", "id_t", ")", ")", "i_addr_dst_decode", "(",
    ".", "addr_i", "(", "addr_i", ")", ",", ".", "addr_map_i", "(", "addr_map_i", ")", ",", ".", "idx_o",
    "(", "id_o", ")", ",", ".", "dec_valid_o", "(", ")", ",", ".", "dec_error_o", "(", "dec_error", ")", ",",
    ".", "en_default_idx_i", "(", "1'b0", ")", ",", ".", "default_idx_i", "(", "'0", ")", ")", ";",
    "`ASSERT", "(", "DecodeError", ",", "!", "dec_error", ")"
  ]

def pin_compRoute : List String := [
    "assign", "route_o", "=", "(", "UseIdTable", ")", "?", "route_table_i", "[", "id_o", "]", ":",
    "route_table_i", "[", "id_i", "]", ";"
  ]

def pin_branches : List (List String) := [[
      "(", "RouteAlgo", "==", "IdTable", ")"
    ], [
      "(", "RouteAlgo", "==", "SourceRouting", ")"
    ], [
      "(", "RouteAlgo", "==", "XYRouting", ")"
    ]]
def pin_routerDefaults : List String := [
    "parameter", "bit", "XYRouteOpt", "=", "1'b1", "parameter", "bit", "NoLoopback", "=", "1'b1"
  ]

def pin_chimneyComp : List (List String) := [[
      "floo_axi_chimney.sv", "floo_route_comp", "#", "(", ".", "RouteCfg", "(", "RouteCfg", ")", ",", ".",
      "id_t", "(", "id_t", ")", ",", ".", "addr_t", "(", "axi_addr_t", ")", ",", ".", "addr_rule_t", "(",
      "sam_rule_t", ")", ",", ".", "route_t", "(", "route_t", ")", ")", "i_floo_req_route_comp", "(", ".",
      "clk_i", ",", ".", "rst_ni", ",", ".", "route_table_i", ",", ".", "addr_map_i", "(", "Sam", ")", ",",
      ".", "id_i", "(", "id_t", "'(", "'0", ")", ")", ",", ".", "addr_i", "(", "axi_req_addr", "[", "ch",
      "]", ")", ",", ".", "route_o", "(", "route_out", "[", "ch", "]", ")", ",", ".", "id_o", "(", "id_out",
      "[", "ch", "]", ")", ")", ";"
    ], [
      "floo_axi_chimney.sv", "floo_route_comp", "#", "(", ".", "RouteCfg", "(", "RouteCfg", ")", ",", ".",
      "UseIdTable", "(", "1'b0", ")", ",", ".", "id_t", "(", "id_t", ")", ",", ".", "addr_t", "(",
      "axi_addr_t", ")", ",", ".", "addr_rule_t", "(", "sam_rule_t", ")", ",", ".", "route_t", "(",
      "route_t", ")", ")", "i_floo_rsp_route_comp", "(", ".", "clk_i", ",", ".", "rst_ni", ",", ".",
      "route_table_i", ",", ".", "addr_i", "(", "'0", ")", ",", ".", "addr_map_i", "(", "'0", ")", ",", ".",
      "id_i", "(", "axi_rsp_src_id", "[", "ch", "]", ")", ",", ".", "route_o", "(", "route_out", "[", "ch",
      "]", ")", ",", ".", "id_o", "(", "id_out", "[", "ch", "]", ")", ")", ";"
    ], [
      "floo_nw_chimney.sv", "floo_route_comp", "#", "(", ".", "RouteCfg", "(", "RouteCfg", ")", ",", ".",
      "id_t", "(", "id_t", ")", ",", ".", "addr_t", "(", "axi_addr_t", ")", ",", ".", "addr_rule_t", "(",
      "sam_rule_t", ")", ",", ".", "route_t", "(", "route_t", ")", ")", "i_floo_req_route_comp", "(", ".",
      "clk_i", ",", ".", "rst_ni", ",", ".", "route_table_i", ",", ".", "addr_map_i", "(", "Sam", ")", ",",
      ".", "id_i", "(", "id_t", "'(", "'0", ")", ")", ",", ".", "addr_i", "(", "axi_req_addr", "[", "ch",
      "]", ")", ",", ".", "route_o", "(", "route_out", "[", "ch", "]", ")", ",", ".", "id_o", "(", "id_out",
      "[", "ch", "]", ")", ")", ";"
    ], [
      "floo_nw_chimney.sv", "floo_route_comp", "#", "(", ".", "RouteCfg", "(", "RouteCfg", ")", ",", ".",
      "UseIdTable", "(", "1'b0", ")", ",", ".", "id_t", "(", "id_t", ")", ",", ".", "addr_t", "(",
      "axi_addr_t", ")", ",", ".", "addr_rule_t", "(", "sam_rule_t", ")", ",", ".", "route_t", "(",
      "route_t", ")", ")", "i_floo_rsp_route_comp", "(", ".", "clk_i", ",", ".", "rst_ni", ",", ".",
      "route_table_i", ",", ".", "addr_i", "(", "'0", ")", ",", ".", "addr_map_i", "(", "'0", ")", ",", ".",
      "id_i", "(", "axi_rsp_src_id", "[", "ch", "]", ")", ",", ".", "route_o", "(", "route_out", "[", "ch",
      "]", ")", ",", ".", "id_o", "(", "id_out", "[", "ch", "]", ")", ")", ";"
    ]]

theorem rtl_shape :
    rtlFacts.xyRest = pin_xyRest ∧ rtlFacts.routeSelWidth = pin_routeSelWidth ∧ rtlFacts.branches = pin_branches ∧
    rtlFacts.idBlock = pin_idBlock ∧ rtlFacts.routerSelect = pin_routerSelect ∧ rtlFacts.routerMask = pin_routerMask ∧
    rtlFacts.compCond = pin_compCond ∧ rtlFacts.compTable = pin_compTable ∧ rtlFacts.compRoute = pin_compRoute ∧
    rtlFacts.routerDefaults = pin_routerDefaults ∧ rtlFacts.chimneyComp = pin_chimneyComp :=
  -- `frag_routerMask` comes in two chunks and its pin in one: `rfl` would have the elaborator append 300 tokens
  ⟨rfl, rfl, rfl, rfl, rfl, by decide +kernel, rfl, rfl, rfl, rfl, rfl⟩

end FlooVerif.HwTie
