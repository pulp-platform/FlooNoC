/-
  Pinned RTL (written by harness/mk_rtl_pins.py from the tree the semantics was read against):
  `floo_pkg::set_ports` (what the `EnSbrPort`/`EnMgrPort` bits of a chimney configuration mean) and every statement
of the two chimneys that reads or writes the source or destination identity of a flit.
-/
import FlooVerif.Gen.RtlFacts
namespace FlooVerif.HwTie
open FlooVerif Rtl Gen

def pin_setPorts : List String := [
    "function", "automatic", "chimney_cfg_t", "set_ports", "(", "chimney_cfg_t", "cfg", ",", "bit", "en_sbr",
    ",", "bit", "en_mgr", ")", ";", "cfg", ".", "EnSbrPort", "=", "en_sbr", ";", "cfg", ".", "EnMgrPort",
    "=", "en_mgr", ";", "return", "cfg", ";", "endfunction"
  ]


/-- the tokens of this part of the working tree's RTL are the pinned ones -/
theorem setPorts_pinned : rtlFacts.setPorts = pin_setPorts := rfl

def pin_chimneyIds_0_0 : List String := [
    "floo_axi_chimney.sv", "0", "]", "dst_id", ";", "0", "]", "route_out", ";", "0", "]", "id_out", ";",
    "floo_rob_wrapper", "#", "(", ".", "RoBType", "(", "ChimneyCfg", ".", "BRoBType", ")", ",", ".",
    "RoBSize", "(", "ChimneyCfg", ".", "BRoBSize", ")", ",", ".", "MaxRoTxnsPerId", "(", "ChimneyCfg", ".",
    "MaxTxnsPerId", ")", ",", ".", "OnlyMetaData", "(", "1'b1", ")", ",", ".", "ax_len_t", "(", "axi_pkg",
    "::", "len_t", ")", ",", ".", "ax_id_t", "(", "axi_in_id_t", ")", ",", ".", "rsp_chan_t", "(",
    "axi_b_chan_t", ")", ",", ".", "rsp_meta_t", "(", "axi_b_chan_t", ")", ",", ".", "rob_idx_t", "(",
    "rob_idx_t", ")", ",", ".", "dest_t", "(", "id_t", ")", ",", ".", "sram_cfg_t", "(", "sram_cfg_t", ")",
    ")", "i_b_rob", "(", ".", "clk_i", ",", ".", "rst_ni", ",", ".", "sram_cfg_i", ",", ".", "ax_valid_i",
    "(", "aw_rob_valid_in", ")", ",", ".", "ax_ready_o", "(", "aw_rob_ready_out", ")", ",", ".", "ax_len_i",
    "(", "axi_aw_queue", ".", "len", ")", ",", ".", "ax_id_i", "(", "axi_aw_queue", ".", "id", ")", ",", ".",
    "ax_dest_i", "(", "id_out", "[", "AxiAw", "]", ")", ",", ".", "ax_valid_o", "(", "aw_rob_valid_out", ")",
    ",", ".", "ax_ready_i", "(", "aw_rob_ready_in", ")", ",", ".", "ax_rob_req_o", "(", "aw_rob_req_out",
    ")", ",", ".", "ax_rob_idx_o", "(", "aw_rob_idx_out", ")", ",", ".", "rsp_valid_i", "(",
    "b_rob_valid_in", ")", ",", ".", "rsp_ready_o", "(", "b_rob_ready_out", ")", ",", ".", "rsp_i", "(",
    "axi_b_rob_in", ")", ",", ".", "rsp_rob_req_i", "(", "floo_rsp_in", ".", "axi_b", ".", "hdr", ".",
    "rob_req", ")", ",", ".", "rsp_rob_idx_i", "(", "floo_rsp_in", ".", "axi_b", ".", "hdr"
  ]

def pin_chimneyIds_0_1 : List String := [
    ".", "rob_idx", ")", ",", ".", "rsp_last_i", "(", "1'b1", ")", ",", ".", "rsp_valid_o", "(",
    "b_rob_valid_out", ")", ",", ".", "rsp_ready_i", "(", "b_rob_ready_in", ")", ",", ".", "rsp_o", "(",
    "axi_b_rob_out", ")", ")", ";", "floo_rob_wrapper", "#", "(", ".", "RoBType", "(", "ChimneyCfg", ".",
    "RRoBType", ")", ",", ".", "RoBSize", "(", "ChimneyCfg", ".", "RRoBSize", ")", ",", ".",
    "MaxRoTxnsPerId", "(", "ChimneyCfg", ".", "MaxTxnsPerId", ")", ",", ".", "OnlyMetaData", "(", "1'b0",
    ")", ",", ".", "ax_len_t", "(", "axi_pkg", "::", "len_t", ")", ",", ".", "ax_id_t", "(", "axi_in_id_t",
    ")", ",", ".", "rsp_chan_t", "(", "axi_r_chan_t", ")", ",", ".", "rsp_data_t", "(", "axi_data_t", ")",
    ",", ".", "rsp_meta_t", "(", "r_rob_meta_t", ")", ",", ".", "rob_idx_t", "(", "rob_idx_t", ")", ",", ".",
    "dest_t", "(", "id_t", ")", ",", ".", "sram_cfg_t", "(", "sram_cfg_t", ")", ")", "i_r_rob", "(", ".",
    "clk_i", ",", ".", "rst_ni", ",", ".", "sram_cfg_i", ",", ".", "ax_valid_i", "(",
    "axi_ar_queue_valid_out", ")", ",", ".", "ax_ready_o", "(", "axi_ar_queue_ready_in", ")", ",", ".",
    "ax_len_i", "(", "axi_ar_queue", ".", "len", ")", ",", ".", "ax_id_i", "(", "axi_ar_queue", ".", "id",
    ")", ",", ".", "ax_dest_i", "(", "id_out", "[", "AxiAr", "]", ")", ",", ".", "ax_valid_o", "(",
    "ar_rob_valid_out", ")", ",", ".", "ax_ready_i", "(", "ar_rob_ready_in", ")", ",", ".", "ax_rob_req_o",
    "(", "ar_rob_req_out", ")", ",", ".", "ax_rob_idx_o", "(", "ar_rob_idx_out", ")", ",", ".",
    "rsp_valid_i", "(", "r_rob_valid_in", ")", ",", ".", "rsp_ready_o", "(", "r_rob_ready_out", ")", ",",
    ".", "rsp_i", "(", "axi_r_rob_in"
  ]

def pin_chimneyIds_0_2 : List String := [
    ")", ",", ".", "rsp_rob_req_i", "(", "floo_rsp_in", ".", "axi_r", ".", "hdr", ".", "rob_req", ")", ",",
    ".", "rsp_rob_idx_i", "(", "floo_rsp_in", ".", "axi_r", ".", "hdr", ".", "rob_idx", ")", ",", ".",
    "rsp_last_i", "(", "floo_rsp_in", ".", "axi_r", ".", "payload", ".", "last", ")", ",", ".",
    "rsp_valid_o", "(", "r_rob_valid_out", ")", ",", ".", "rsp_ready_i", "(", "r_rob_ready_in", ")", ",",
    ".", "rsp_o", "(", "axi_r_rob_out", ")", ")", ";", "0", "]", "axi_rsp_src_id", ";", "assign",
    "axi_rsp_src_id", "[", "AxiB", "]", "=", "aw_out_hdr_out", ".", "hdr", ".", "src_id", ";", "assign",
    "axi_rsp_src_id", "[", "AxiR", "]", "=", "ar_out_hdr_out", ".", "hdr", ".", "src_id", ";",
    "gen_req_route_comp", "floo_route_comp", "#", "(", ".", "RouteCfg", "(", "RouteCfg", ")", ",", ".",
    "id_t", "(", "id_t", ")", ",", ".", "addr_t", "(", "axi_addr_t", ")", ",", ".", "addr_rule_t", "(",
    "sam_rule_t", ")", ",", ".", "route_t", "(", "route_t", ")", ")", "i_floo_req_route_comp", "(", ".",
    "clk_i", ",", ".", "rst_ni", ",", ".", "route_table_i", ",", ".", "addr_map_i", "(", "Sam", ")", ",",
    ".", "id_i", "(", "id_t", "'(", "'0", ")", ")", ",", ".", "addr_i", "(", "axi_req_addr", "[", "ch", "]",
    ")", ",", ".", "route_o", "(", "route_out", "[", "ch", "]", ")", ",", ".", "id_o", "(", "id_out", "[",
    "ch", "]", ")", ")", ";", "gen_rsp_route_comp", "floo_route_comp", "#", "(", ".", "RouteCfg", "(",
    "RouteCfg", ")", ",", ".", "UseIdTable", "(", "1'b0", ")", ",", ".", "id_t", "(", "id_t", ")", ",", ".",
    "addr_t", "(", "axi_addr_t", ")"
  ]

def pin_chimneyIds_0_3 : List String := [
    ",", ".", "addr_rule_t", "(", "sam_rule_t", ")", ",", ".", "route_t", "(", "route_t", ")", ")",
    "i_floo_rsp_route_comp", "(", ".", "clk_i", ",", ".", "rst_ni", ",", ".", "route_table_i", ",", ".",
    "addr_i", "(", "'0", ")", ",", ".", "addr_map_i", "(", "'0", ")", ",", ".", "id_i", "(",
    "axi_rsp_src_id", "[", "ch", "]", ")", ",", ".", "route_o", "(", "route_out", "[", "ch", "]", ")", ",",
    ".", "id_o", "(", "id_out", "[", "ch", "]", ")", ")", ";", "gen_route_field", "assign", "route_out", "[",
    "AxiW", "]", "=", "axi_aw_id_q", ";", "assign", "dst_id", "=", "route_out", ";", "gen_dst_field",
    "assign", "dst_id", "[", "AxiAw", "]", "=", "id_out", "[", "AxiAw", "]", ";", "assign", "dst_id", "[",
    "AxiAr", "]", "=", "id_out", "[", "AxiAr", "]", ";", "assign", "dst_id", "[", "AxiB", "]", "=",
    "aw_out_hdr_out", ".", "hdr", ".", "src_id", ";", "assign", "dst_id", "[", "AxiR", "]", "=",
    "ar_out_hdr_out", ".", "hdr", ".", "src_id", ";", "assign", "dst_id", "[", "AxiW", "]", "=",
    "axi_aw_id_q", ";", "floo_axi_aw", "=", "'0", ";", "floo_axi_aw", ".", "hdr", ".", "dst_id", "=",
    "dst_id", "[", "AxiAw", "]", ";", "floo_axi_aw", ".", "hdr", ".", "src_id", "=", "id_i", ";",
    "floo_axi_w", ".", "hdr", ".", "dst_id", "=", "dst_id", "[", "AxiW", "]", ";", "floo_axi_w", ".", "hdr",
    ".", "src_id", "=", "id_i", ";", "floo_axi_ar", ".", "hdr", ".", "dst_id", "=", "dst_id", "[", "AxiAr",
    "]", ";", "floo_axi_ar", ".", "hdr", ".", "src_id", "=", "id_i", ";", "floo_axi_b", ".", "hdr", ".",
    "dst_id", "="
  ]

def pin_chimneyIds_0_4 : List String := [
    "dst_id", "[", "AxiB", "]", ";", "floo_axi_b", ".", "hdr", ".", "src_id", "=", "id_i", ";", "floo_axi_r",
    ".", "hdr", ".", "dst_id", "=", "dst_id", "[", "AxiR", "]", ";", "floo_axi_r", ".", "hdr", ".", "src_id",
    "=", "id_i", ";"
  ]

def pin_chimneyIds_0 : List String := pin_chimneyIds_0_0 ++ pin_chimneyIds_0_1 ++ pin_chimneyIds_0_2 ++ pin_chimneyIds_0_3 ++ pin_chimneyIds_0_4


def pin_chimneyIds_1_0 : List String := [
    "floo_nw_chimney.sv", "0", "]", "dst_id", ";", "0", "]", "route_out", ";", "0", "]", "id_out", ";",
    "floo_rob_wrapper", "#", "(", ".", "RoBType", "(", "ChimneyCfgN", ".", "BRoBType", ")", ",", ".",
    "RoBSize", "(", "ChimneyCfgN", ".", "BRoBSize", ")", ",", ".", "MaxRoTxnsPerId", "(", "ChimneyCfgN", ".",
    "MaxTxnsPerId", ")", ",", ".", "OnlyMetaData", "(", "1'b1", ")", ",", ".", "ax_len_t", "(", "axi_pkg",
    "::", "len_t", ")", ",", ".", "ax_id_t", "(", "axi_narrow_in_id_t", ")", ",", ".", "rsp_chan_t", "(",
    "axi_narrow_b_chan_t", ")", ",", ".", "rsp_meta_t", "(", "axi_narrow_b_chan_t", ")", ",", ".",
    "rob_idx_t", "(", "rob_idx_t", ")", ",", ".", "dest_t", "(", "id_t", ")", ",", ".", "sram_cfg_t", "(",
    "sram_cfg_t", ")", ")", "i_narrow_b_rob", "(", ".", "clk_i", ",", ".", "rst_ni", ",", ".", "sram_cfg_i",
    ",", ".", "ax_valid_i", "(", "narrow_aw_rob_valid_in", ")", ",", ".", "ax_ready_o", "(",
    "narrow_aw_rob_ready_out", ")", ",", ".", "ax_len_i", "(", "axi_narrow_aw_queue", ".", "len", ")", ",",
    ".", "ax_id_i", "(", "axi_narrow_aw_queue", ".", "id", ")", ",", ".", "ax_dest_i", "(", "id_out", "[",
    "NarrowAw", "]", ")", ",", ".", "ax_valid_o", "(", "narrow_aw_rob_valid_out", ")", ",", ".",
    "ax_ready_i", "(", "narrow_aw_rob_ready_in", ")", ",", ".", "ax_rob_req_o", "(", "narrow_aw_rob_req_out",
    ")", ",", ".", "ax_rob_idx_o", "(", "narrow_aw_rob_idx_out", ")", ",", ".", "rsp_valid_i", "(",
    "narrow_b_rob_valid_in", ")", ",", ".", "rsp_ready_o", "(", "narrow_b_rob_ready_out", ")", ",", ".",
    "rsp_i", "(", "axi_narrow_b_rob_in", ")", ",", ".", "rsp_rob_req_i", "(", "narrow_b_rob_rob_req", ")",
    ",", ".", "rsp_rob_idx_i", "(", "narrow_b_rob_rob_idx", ")", ",", ".", "rsp_last_i", "(",
    "narrow_b_rob_last", ")", ",", ".", "rsp_valid_o"
  ]

def pin_chimneyIds_1_1 : List String := [
    "(", "narrow_b_rob_valid_out", ")", ",", ".", "rsp_ready_i", "(", "narrow_b_rob_ready_in", ")", ",", ".",
    "rsp_o", "(", "axi_narrow_b_rob_out", ")", ")", ";", "floo_rob_wrapper", "#", "(", ".", "RoBType", "(",
    "ChimneyCfgW", ".", "BRoBType", ")", ",", ".", "RoBSize", "(", "ChimneyCfgW", ".", "BRoBSize", ")", ",",
    ".", "MaxRoTxnsPerId", "(", "ChimneyCfgW", ".", "MaxTxnsPerId", ")", ",", ".", "OnlyMetaData", "(",
    "1'b1", ")", ",", ".", "ax_len_t", "(", "axi_pkg", "::", "len_t", ")", ",", ".", "ax_id_t", "(",
    "axi_wide_in_id_t", ")", ",", ".", "rsp_chan_t", "(", "axi_wide_b_chan_t", ")", ",", ".", "rsp_meta_t",
    "(", "axi_wide_b_chan_t", ")", ",", ".", "rob_idx_t", "(", "rob_idx_t", ")", ",", ".", "dest_t", "(",
    "id_t", ")", ",", ".", "sram_cfg_t", "(", "sram_cfg_t", ")", ")", "i_wide_b_rob", "(", ".", "clk_i", ",",
    ".", "rst_ni", ",", ".", "sram_cfg_i", ",", ".", "ax_valid_i", "(", "axi_wide_aw_queue_valid_out", ")",
    ",", ".", "ax_ready_o", "(", "axi_wide_aw_queue_ready_in", ")", ",", ".", "ax_len_i", "(",
    "axi_wide_aw_queue", ".", "len", ")", ",", ".", "ax_id_i", "(", "axi_wide_aw_queue", ".", "id", ")", ",",
    ".", "ax_dest_i", "(", "id_out", "[", "WideAw", "]", ")", ",", ".", "ax_valid_o", "(",
    "wide_aw_rob_valid_out", ")", ",", ".", "ax_ready_i", "(", "wide_aw_rob_ready_in", ")", ",", ".",
    "ax_rob_req_o", "(", "wide_aw_rob_req_out", ")", ",", ".", "ax_rob_idx_o", "(", "wide_aw_rob_idx_out",
    ")", ",", ".", "rsp_valid_i", "(", "wide_b_rob_valid_in", ")", ",", ".", "rsp_ready_o", "(",
    "wide_b_rob_ready_out", ")", ",", ".", "rsp_i", "(", "axi_wide_b_rob_in", ")", ",", ".", "rsp_rob_req_i",
    "(", "wide_b_rob_rob_req", ")", ",", ".", "rsp_rob_idx_i", "(", "wide_b_rob_rob_idx", ")", ",", ".",
    "rsp_last_i", "(", "wide_b_rob_last"
  ]

def pin_chimneyIds_1_2 : List String := [
    ")", ",", ".", "rsp_valid_o", "(", "wide_b_rob_valid_out", ")", ",", ".", "rsp_ready_i", "(",
    "wide_b_rob_ready_in", ")", ",", ".", "rsp_o", "(", "axi_wide_b_rob_out", ")", ")", ";",
    "floo_rob_wrapper", "#", "(", ".", "RoBType", "(", "ChimneyCfgN", ".", "RRoBType", ")", ",", ".",
    "RoBSize", "(", "ChimneyCfgN", ".", "RRoBSize", ")", ",", ".", "MaxRoTxnsPerId", "(", "ChimneyCfgN", ".",
    "MaxTxnsPerId", ")", ",", ".", "OnlyMetaData", "(", "1'b0", ")", ",", ".", "ax_len_t", "(", "axi_pkg",
    "::", "len_t", ")", ",", ".", "ax_id_t", "(", "axi_narrow_in_id_t", ")", ",", ".", "rsp_chan_t", "(",
    "axi_narrow_r_chan_t", ")", ",", ".", "rsp_data_t", "(", "axi_narrow_data_t", ")", ",", ".",
    "rsp_meta_t", "(", "narrow_r_rob_meta_t", ")", ",", ".", "rob_idx_t", "(", "rob_idx_t", ")", ",", ".",
    "dest_t", "(", "id_t", ")", ",", ".", "sram_cfg_t", "(", "sram_cfg_t", ")", ")", "i_narrow_r_rob", "(",
    ".", "clk_i", ",", ".", "rst_ni", ",", ".", "sram_cfg_i", ",", ".", "ax_valid_i", "(",
    "axi_narrow_ar_queue_valid_out", ")", ",", ".", "ax_ready_o", "(", "axi_narrow_ar_queue_ready_in", ")",
    ",", ".", "ax_len_i", "(", "axi_narrow_ar_queue", ".", "len", ")", ",", ".", "ax_id_i", "(",
    "axi_narrow_ar_queue", ".", "id", ")", ",", ".", "ax_dest_i", "(", "id_out", "[", "NarrowAr", "]", ")",
    ",", ".", "ax_valid_o", "(", "narrow_ar_rob_valid_out", ")", ",", ".", "ax_ready_i", "(",
    "narrow_ar_rob_ready_in", ")", ",", ".", "ax_rob_req_o", "(", "narrow_ar_rob_req_out", ")", ",", ".",
    "ax_rob_idx_o", "(", "narrow_ar_rob_idx_out", ")", ",", ".", "rsp_valid_i", "(", "narrow_r_rob_valid_in",
    ")", ",", ".", "rsp_ready_o", "(", "narrow_r_rob_ready_out", ")", ",", ".", "rsp_i", "(",
    "axi_narrow_r_rob_in", ")", ",", ".", "rsp_rob_req_i", "(", "narrow_r_rob_rob_req", ")", ","
  ]

def pin_chimneyIds_1_3 : List String := [
    ".", "rsp_rob_idx_i", "(", "narrow_r_rob_rob_idx", ")", ",", ".", "rsp_last_i", "(", "narrow_r_rob_last",
    ")", ",", ".", "rsp_valid_o", "(", "narrow_r_rob_valid_out", ")", ",", ".", "rsp_ready_i", "(",
    "narrow_r_rob_ready_in", ")", ",", ".", "rsp_o", "(", "axi_narrow_r_rob_out", ")", ")", ";",
    "floo_rob_wrapper", "#", "(", ".", "RoBType", "(", "ChimneyCfgW", ".", "RRoBType", ")", ",", ".",
    "RoBSize", "(", "ChimneyCfgW", ".", "RRoBSize", ")", ",", ".", "MaxRoTxnsPerId", "(", "ChimneyCfgW", ".",
    "MaxTxnsPerId", ")", ",", ".", "OnlyMetaData", "(", "1'b0", ")", ",", ".", "ax_len_t", "(", "axi_pkg",
    "::", "len_t", ")", ",", ".", "ax_id_t", "(", "axi_wide_in_id_t", ")", ",", ".", "rsp_chan_t", "(",
    "axi_wide_r_chan_t", ")", ",", ".", "rsp_data_t", "(", "axi_wide_data_t", ")", ",", ".", "rsp_meta_t",
    "(", "wide_r_rob_meta_t", ")", ",", ".", "rob_idx_t", "(", "rob_idx_t", ")", ",", ".", "dest_t", "(",
    "id_t", ")", ",", ".", "sram_cfg_t", "(", "sram_cfg_t", ")", ")", "i_wide_r_rob", "(", ".", "clk_i", ",",
    ".", "rst_ni", ",", ".", "sram_cfg_i", ",", ".", "ax_valid_i", "(", "axi_wide_ar_queue_valid_out", ")",
    ",", ".", "ax_ready_o", "(", "axi_wide_ar_queue_ready_in", ")", ",", ".", "ax_len_i", "(",
    "axi_wide_ar_queue", ".", "len", ")", ",", ".", "ax_id_i", "(", "axi_wide_ar_queue", ".", "id", ")", ",",
    ".", "ax_dest_i", "(", "id_out", "[", "WideAr", "]", ")", ",", ".", "ax_valid_o", "(",
    "wide_ar_rob_valid_out", ")", ",", ".", "ax_ready_i", "(", "wide_ar_rob_ready_in", ")", ",", ".",
    "ax_rob_req_o", "(", "wide_ar_rob_req_out", ")", ",", ".", "ax_rob_idx_o", "(", "wide_ar_rob_idx_out",
    ")", ",", ".", "rsp_valid_i", "(", "wide_r_rob_valid_in", ")", ",", ".", "rsp_ready_o", "(",
    "wide_r_rob_ready_out", ")", ",", ".", "rsp_i"
  ]

def pin_chimneyIds_1_4 : List String := [
    "(", "axi_wide_r_rob_in", ")", ",", ".", "rsp_rob_req_i", "(", "wide_r_rob_rob_req", ")", ",", ".",
    "rsp_rob_idx_i", "(", "wide_r_rob_rob_idx", ")", ",", ".", "rsp_last_i", "(", "wide_r_rob_last", ")",
    ",", ".", "rsp_valid_o", "(", "wide_r_rob_valid_out", ")", ",", ".", "rsp_ready_i", "(",
    "wide_r_rob_ready_in", ")", ",", ".", "rsp_o", "(", "axi_wide_r_rob_out", ")", ")", ";", "0", "]",
    "axi_rsp_src_id", ";", "assign", "axi_rsp_src_id", "[", "NarrowB", "]", "=", "narrow_aw_buf_hdr_out",
    ".", "hdr", ".", "src_id", ";", "assign", "axi_rsp_src_id", "[", "NarrowR", "]", "=",
    "narrow_ar_buf_hdr_out", ".", "hdr", ".", "src_id", ";", "assign", "axi_rsp_src_id", "[", "WideB", "]",
    "=", "wide_aw_buf_hdr_out", ".", "hdr", ".", "src_id", ";", "assign", "axi_rsp_src_id", "[", "WideR",
    "]", "=", "wide_ar_buf_hdr_out", ".", "hdr", ".", "src_id", ";", "gen_req_route_comp", "floo_route_comp",
    "#", "(", ".", "RouteCfg", "(", "RouteCfg", ")", ",", ".", "id_t", "(", "id_t", ")", ",", ".", "addr_t",
    "(", "axi_addr_t", ")", ",", ".", "addr_rule_t", "(", "sam_rule_t", ")", ",", ".", "route_t", "(",
    "route_t", ")", ")", "i_floo_req_route_comp", "(", ".", "clk_i", ",", ".", "rst_ni", ",", ".",
    "route_table_i", ",", ".", "addr_map_i", "(", "Sam", ")", ",", ".", "id_i", "(", "id_t", "'(", "'0", ")",
    ")", ",", ".", "addr_i", "(", "axi_req_addr", "[", "ch", "]", ")", ",", ".", "route_o", "(", "route_out",
    "[", "ch", "]", ")", ",", ".", "id_o", "(", "id_out", "[", "ch", "]", ")", ")", ";",
    "gen_rsp_route_comp", "floo_route_comp", "#", "(", ".", "RouteCfg", "(", "RouteCfg", ")", ",", ".",
    "UseIdTable", "(", "1'b0", ")", ",", ".", "id_t", "("
  ]

def pin_chimneyIds_1_5 : List String := [
    "id_t", ")", ",", ".", "addr_t", "(", "axi_addr_t", ")", ",", ".", "addr_rule_t", "(", "sam_rule_t", ")",
    ",", ".", "route_t", "(", "route_t", ")", ")", "i_floo_rsp_route_comp", "(", ".", "clk_i", ",", ".",
    "rst_ni", ",", ".", "route_table_i", ",", ".", "addr_i", "(", "'0", ")", ",", ".", "addr_map_i", "(",
    "'0", ")", ",", ".", "id_i", "(", "axi_rsp_src_id", "[", "ch", "]", ")", ",", ".", "route_o", "(",
    "route_out", "[", "ch", "]", ")", ",", ".", "id_o", "(", "id_out", "[", "ch", "]", ")", ")", ";",
    "gen_route_field", "assign", "route_out", "[", "NarrowW", "]", "=", "narrow_aw_id_q", ";", "assign",
    "route_out", "[", "WideW", "]", "=", "wide_aw_id_q", ";", "assign", "dst_id", "=", "route_out", ";",
    "gen_dst_field", "assign", "dst_id", "[", "NarrowAw", "]", "=", "id_out", "[", "NarrowAw", "]", ";",
    "assign", "dst_id", "[", "NarrowAr", "]", "=", "id_out", "[", "NarrowAr", "]", ";", "assign", "dst_id",
    "[", "WideAw", "]", "=", "id_out", "[", "WideAw", "]", ";", "assign", "dst_id", "[", "WideAr", "]", "=",
    "id_out", "[", "WideAr", "]", ";", "assign", "dst_id", "[", "NarrowB", "]", "=", "narrow_aw_buf_hdr_out",
    ".", "hdr", ".", "src_id", ";", "assign", "dst_id", "[", "NarrowR", "]", "=", "narrow_ar_buf_hdr_out",
    ".", "hdr", ".", "src_id", ";", "assign", "dst_id", "[", "WideB", "]", "=", "wide_aw_buf_hdr_out", ".",
    "hdr", ".", "src_id", ";", "assign", "dst_id", "[", "WideR", "]", "=", "wide_ar_buf_hdr_out", ".", "hdr",
    ".", "src_id", ";", "assign", "dst_id", "[", "NarrowW", "]", "=", "narrow_aw_id_q", ";", "assign",
    "dst_id", "[", "WideW", "]"
  ]

def pin_chimneyIds_1_6 : List String := [
    "=", "wide_aw_id_q", ";", "floo_narrow_aw", "=", "'0", ";", "floo_narrow_aw", ".", "hdr", ".", "dst_id",
    "=", "dst_id", "[", "NarrowAw", "]", ";", "floo_narrow_aw", ".", "hdr", ".", "src_id", "=", "id_i", ";",
    "floo_narrow_w", ".", "hdr", ".", "dst_id", "=", "dst_id", "[", "NarrowW", "]", ";", "floo_narrow_w",
    ".", "hdr", ".", "src_id", "=", "id_i", ";", "floo_narrow_ar", ".", "hdr", ".", "dst_id", "=", "dst_id",
    "[", "NarrowAr", "]", ";", "floo_narrow_ar", ".", "hdr", ".", "src_id", "=", "id_i", ";",
    "floo_narrow_b", ".", "hdr", ".", "dst_id", "=", "dst_id", "[", "NarrowB", "]", ";", "floo_narrow_b",
    ".", "hdr", ".", "src_id", "=", "id_i", ";", "floo_narrow_r", ".", "hdr", ".", "dst_id", "=", "dst_id",
    "[", "NarrowR", "]", ";", "floo_narrow_r", ".", "hdr", ".", "src_id", "=", "id_i", ";", "floo_wide_aw",
    ".", "hdr", ".", "dst_id", "=", "dst_id", "[", "WideAw", "]", ";", "floo_wide_aw", ".", "hdr", ".",
    "src_id", "=", "id_i", ";", "floo_wide_w", ".", "hdr", ".", "dst_id", "=", "dst_id", "[", "WideW", "]",
    ";", "floo_wide_w", ".", "hdr", ".", "src_id", "=", "id_i", ";", "floo_wide_ar", ".", "hdr", ".",
    "dst_id", "=", "dst_id", "[", "WideAr", "]", ";", "floo_wide_ar", ".", "hdr", ".", "src_id", "=", "id_i",
    ";", "floo_wide_b", ".", "hdr", ".", "dst_id", "=", "dst_id", "[", "WideB", "]", ";", "floo_wide_b", ".",
    "hdr", ".", "src_id", "=", "id_i", ";", "floo_wide_r", ".", "hdr", ".", "dst_id", "=", "dst_id", "[",
    "WideR", "]", ";", "floo_wide_r", ".", "hdr", ".", "src_id", "=", "id_i", ";"
  ]

def pin_chimneyIds_1 : List String := pin_chimneyIds_1_0 ++ pin_chimneyIds_1_1 ++ pin_chimneyIds_1_2 ++ pin_chimneyIds_1_3 ++ pin_chimneyIds_1_4 ++ pin_chimneyIds_1_5 ++ pin_chimneyIds_1_6


def pin_chimneyIds : List (List String) := [pin_chimneyIds_0, pin_chimneyIds_1]

/-- the tokens of this part of the working tree's RTL are the pinned ones -/
theorem chimneyIds_pinned : rtlFacts.chimneyIds = pin_chimneyIds := rfl

end FlooVerif.HwTie
