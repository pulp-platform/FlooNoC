/-
  Pinned RTL (written by harness/mk_rtl_pins.py from the tree the semantics was read against):
  the three modules that execute a route, whole: `floo_route_select` (decision per routing algorithm),
`floo_router` (what is connected to it, masking, arbitration) and `floo_route_comp` (destination and route look-up
in the network interface).  `Hw.lean` reads them as: nothing but the pinned decision blocks decides the output
port, and nothing between the ports of the router and `floo_route_select` changes the table or the flit.
-/
import FlooVerif.Gen.RtlFacts
namespace FlooVerif.HwTie
open FlooVerif Rtl Gen

def pin_selectAll_0 : List String := [
    "`include", "\"common_cells/registers.svh\"", "module", "floo_route_select", "import", "floo_pkg", "::",
    "*", ";", "#", "(", "parameter", "int", "unsigned", "NumRoutes", "=", "0", ",", "parameter", "type",
    "flit_t", "=", "logic", ",", "parameter", "route_algo_e", "RouteAlgo", "=", "IdTable", ",", "parameter",
    "bit", "LockRouting", "=", "1'b1", ",", "parameter", "int", "unsigned", "IdWidth", "=", "0", ",",
    "parameter", "int", "unsigned", "NumAddrRules", "=", "0", ",", "parameter", "type", "addr_rule_t", "=",
    "logic", ",", "parameter", "type", "id_t", "=", "logic", "[", "IdWidth", "-", "1", ":", "0", "]", ",",
    "parameter", "int", "unsigned", "RouteSelWidth", "=", "$clog2", "(", "NumRoutes", ")", ")", "(", "input",
    "logic", "clk_i", ",", "input", "logic", "rst_ni", ",", "input", "logic", "test_enable_i", ",", "input",
    "id_t", "xy_id_i", ",", "input", "addr_rule_t", "[", "NumAddrRules", "-", "1", ":", "0", "]",
    "id_route_map_i", ",", "input", "flit_t", "channel_i", ",", "input", "logic", "valid_i", ",", "input",
    "logic", "ready_i", ",", "output", "flit_t", "channel_o", ",", "output", "logic", "[", "NumRoutes", "-",
    "1", ":", "0", "]", "route_sel_o", ",", "output", "logic", "[", "RouteSelWidth", "-", "1", ":", "0", "]",
    "route_sel_id_o", ")", ";", "logic", "[", "NumRoutes", "-", "1", ":", "0", "]", "route_sel", ";",
    "logic", "[", "RouteSelWidth", "-", "1", ":", "0", "]", "route_sel_id", ";", "if", "(", "RouteAlgo",
    "==", "IdTable", ")", "begin", ":", "gen_id_table", "logic", "[", "RouteSelWidth", "-", "1", ":", "0",
    "]", "id_table_result", ";", "assign", "channel_o", "=", "channel_i", ";", "addr_decode", "#", "(", ".",
    "NoIndices", "(", "NumRoutes", ")", ",", "."
  ]

def pin_selectAll_1 : List String := [
    "NoRules", "(", "NumAddrRules", ")", ",", ".", "addr_t", "(", "id_t", ")", ",", ".", "rule_t", "(",
    "addr_rule_t", ")", ",", ".", "Napot", "(", "0", ")", ")", "i_id_decode", "(", ".", "addr_i", "(",
    "channel_i", ".", "hdr", ".", "dst_id", ")", ",", ".", "addr_map_i", "(", "id_route_map_i", ")", ",",
    ".", "idx_o", "(", "id_table_result", ")", ",", ".", "dec_valid_o", "(", ")", ",", ".", "dec_error_o",
    "(", ")", ",", ".", "default_idx_i", "(", "'0", ")", ",", ".", "en_default_idx_i", "(", "'0", ")", ")",
    ";", "always_comb", "begin", ":", "proc_route_sel", "route_sel_id", "=", "id_table_result", ";",
    "route_sel", "=", "'0", ";", "route_sel", "[", "id_table_result", "]", "=", "1'b1", ";", "end", "end",
    "else", "if", "(", "RouteAlgo", "==", "SourceRouting", ")", "begin", ":", "gen_consumption",
    "always_comb", "begin", ":", "proc_route_sel", "route_sel_id", "=", "channel_i", ".", "hdr", ".",
    "dst_id", "[", "RouteSelWidth", "-", "1", ":", "0", "]", ";", "route_sel", "=", "'0", ";", "route_sel",
    "[", "route_sel_id", "]", "=", "1'b1", ";", "channel_o", "=", "channel_i", ";", "channel_o", ".", "hdr",
    ".", "dst_id", "=", "channel_i", ".", "hdr", ".", "dst_id", ">>", "RouteSelWidth", ";", "end", "end",
    "else", "if", "(", "RouteAlgo", "==", "XYRouting", ")", "begin", ":", "gen_xy_routing", "id_t", "id_in",
    ";", "assign", "id_in", "=", "id_t", "'(", "channel_i", ".", "hdr", ".", "dst_id", ")", ";",
    "always_comb", "begin", ":", "proc_route_sel", "route_sel_id", "=", "East", ";", "if", "(", "id_in", ".",
    "x", "==", "xy_id_i", ".", "x", "&&", "id_in", ".", "y", "==", "xy_id_i", "."
  ]

def pin_selectAll_2 : List String := [
    "y", ")", "begin", "route_sel_id", "=", "Eject", "+", "channel_i", ".", "hdr", ".", "dst_id", ".",
    "port_id", ";", "end", "else", "if", "(", "id_in", ".", "x", "==", "xy_id_i", ".", "x", ")", "begin",
    "if", "(", "id_in", ".", "y", "<", "xy_id_i", ".", "y", ")", "begin", "route_sel_id", "=", "South", ";",
    "end", "else", "begin", "route_sel_id", "=", "North", ";", "end", "end", "else", "begin", "if", "(",
    "id_in", ".", "x", "<", "xy_id_i", ".", "x", ")", "begin", "route_sel_id", "=", "West", ";", "end",
    "else", "begin", "route_sel_id", "=", "East", ";", "end", "end", "route_sel", "=", "'0", ";",
    "route_sel", "[", "route_sel_id", "]", "=", "1'b1", ";", "end", "assign", "channel_o", "=", "channel_i",
    ";", "end", "else", "begin", ":", "gen_err", "initial", "begin", "$fatal", "(", "1", ",",
    "\"Routing algorithm unknown\"", ")", ";", "end", "end", "if", "(", "LockRouting", ")", "begin", ":",
    "gen_lock", "logic", "locked_route_d", ",", "locked_route_q", ";", "always_comb", "begin",
    "locked_route_d", "=", "locked_route_q", ";", "if", "(", "ready_i", "&&", "valid_i", ")", "begin",
    "locked_route_d", "=", "~", "channel_i", ".", "hdr", ".", "last", ";", "end", "end", "logic", "[",
    "NumRoutes", "-", "1", ":", "0", "]", "route_sel_q", ";", "logic", "[", "RouteSelWidth", "-", "1", ":",
    "0", "]", "route_sel_id_q", ";", "assign", "route_sel_o", "=", "locked_route_q", "?", "route_sel_q", ":",
    "route_sel", ";", "assign", "route_sel_id_o", "=", "locked_route_q", "?", "route_sel_id_q", ":",
    "route_sel_id", ";", "`FF", "(", "locked_route_q", ",", "locked_route_d", ",", "'0", ")", "`FFL", "(",
    "route_sel_q", ",", "route_sel", ",", "~"
  ]

def pin_selectAll_3 : List String := [
    "locked_route_q", ",", "'0", ")", "`FFL", "(", "route_sel_id_q", ",", "route_sel_id", ",", "~",
    "locked_route_q", ",", "'0", ")", "`ifndef", "TARGET_SYNTHESIS", "always", "@", "(", "posedge", "clk_i",
    ")", "begin", "if", "(", "ready_i", "&&", "valid_i", "&&", "locked_route_q", "&&", "(", "(",
    "route_sel_id_q", "!=", "route_sel_id", ")", "||", "(", "route_sel_q", "!=", "route_sel", ")", ")", ")",
    "$warning", "(", "\"Mismatch in route selection!\"", ")", ";", "end", "`endif", "end", "else", "begin",
    ":", "gen_no_lock", "assign", "route_sel_o", "=", "route_sel", ";", "assign", "route_sel_id_o", "=",
    "route_sel_id", ";", "end", "endmodule"
  ]

def pin_selectAll : List String := pin_selectAll_0 ++ pin_selectAll_1 ++ pin_selectAll_2 ++ pin_selectAll_3


/-- the tokens of this part of the working tree's RTL are the pinned ones -/
theorem selectAll_pinned : rtlFacts.selectAll = pin_selectAll := rfl

def pin_routerAll_0 : List String := [
    "`include", "\"common_cells/assertions.svh\"", "module", "floo_router", "import", "floo_pkg", "::", "*",
    ";", "#", "(", "parameter", "int", "unsigned", "NumRoutes", "=", "0", ",", "parameter", "int",
    "unsigned", "NumVirtChannels", "=", "0", ",", "parameter", "int", "unsigned", "NumPhysChannels", "=",
    "1", ",", "parameter", "type", "flit_t", "=", "logic", ",", "parameter", "int", "unsigned",
    "InFifoDepth", "=", "0", ",", "parameter", "int", "unsigned", "OutFifoDepth", "=", "0", ",", "parameter",
    "route_algo_e", "RouteAlgo", "=", "IdTable", ",", "parameter", "int", "unsigned", "IdWidth", "=", "0",
    ",", "parameter", "type", "id_t", "=", "logic", "[", "IdWidth", "-", "1", ":", "0", "]", ",",
    "parameter", "int", "unsigned", "NumAddrRules", "=", "1", ",", "parameter", "type", "addr_rule_t", "=",
    "logic", ",", "parameter", "int", "unsigned", "NumInput", "=", "NumRoutes", ",", "parameter", "int",
    "unsigned", "NumOutput", "=", "NumRoutes", ",", "parameter", "bit", "XYRouteOpt", "=", "1'b1", ",",
    "parameter", "bit", "NoLoopback", "=", "1'b1", ")", "(", "input", "logic", "clk_i", ",", "input",
    "logic", "rst_ni", ",", "input", "logic", "test_enable_i", ",", "input", "id_t", "xy_id_i", ",", "input",
    "addr_rule_t", "[", "NumAddrRules", "-", "1", ":", "0", "]", "id_route_map_i", ",", "input", "logic",
    "[", "NumInput", "-", "1", ":", "0", "]", "[", "NumVirtChannels", "-", "1", ":", "0", "]", "valid_i",
    ",", "output", "logic", "[", "NumInput", "-", "1", ":", "0", "]", "[", "NumVirtChannels", "-", "1", ":",
    "0", "]", "ready_o", ",", "input", "flit_t", "[", "NumInput", "-", "1", ":", "0", "]", "[",
    "NumPhysChannels", "-", "1", ":", "0", "]", "data_i", ",", "output"
  ]

def pin_routerAll_1 : List String := [
    "logic", "[", "NumOutput", "-", "1", ":", "0", "]", "[", "NumVirtChannels", "-", "1", ":", "0", "]",
    "valid_o", ",", "input", "logic", "[", "NumOutput", "-", "1", ":", "0", "]", "[", "NumVirtChannels", "-",
    "1", ":", "0", "]", "ready_i", ",", "output", "flit_t", "[", "NumOutput", "-", "1", ":", "0", "]", "[",
    "NumPhysChannels", "-", "1", ":", "0", "]", "data_o", ")", ";", "flit_t", "[", "NumInput", "-", "1", ":",
    "0", "]", "[", "NumVirtChannels", "-", "1", ":", "0", "]", "in_data", ",", "in_routed_data", ";",
    "logic", "[", "NumInput", "-", "1", ":", "0", "]", "[", "NumVirtChannels", "-", "1", ":", "0", "]",
    "in_valid", ",", "in_ready", ";", "logic", "[", "NumInput", "-", "1", ":", "0", "]", "[",
    "NumVirtChannels", "-", "1", ":", "0", "]", "[", "NumOutput", "-", "1", ":", "0", "]", "route_mask", ";",
    "for", "(", "genvar", "in_route", "=", "0", ";", "in_route", "<", "NumInput", ";", "in_route", "+", "+",
    ")", "begin", ":", "gen_input", "for", "(", "genvar", "v_chan", "=", "0", ";", "v_chan", "<",
    "NumVirtChannels", ";", "v_chan", "+", "+", ")", "begin", ":", "gen_virt_input", "logic", "[",
    "cf_math_pkg", "::", "idx_width", "(", "NumPhysChannels", ")", "-", "1", ":", "0", "]",
    "in_phys_channel", ";", "if", "(", "NumPhysChannels", "==", "1", ")", "begin", ":", "gen_single_phys",
    "assign", "in_phys_channel", "=", "'0", ";", "end", "else", "if", "(", "NumPhysChannels", "==",
    "NumVirtChannels", ")", "begin", ":", "gen_virt_eq_phys", "assign", "in_phys_channel", "=", "v_chan",
    ";", "end", "else", "begin"
  ]

def pin_routerAll_2 : List String := [
    ":", "gen_odd_phys", "$fatal", "(", "1", ",", "\"unimplemented\"", ")", ";", "end", "(", "*", "ungroup",
    "*", ")", "stream_fifo_optimal_wrap", "#", "(", ".", "Depth", "(", "InFifoDepth", ")", ",", ".",
    "type_t", "(", "flit_t", ")", ")", "i_stream_fifo", "(", ".", "clk_i", "(", "clk_i", ")", ",", ".",
    "rst_ni", "(", "rst_ni", ")", ",", ".", "testmode_i", "(", "test_enable_i", ")", ",", ".", "flush_i",
    "(", "1'b0", ")", ",", ".", "usage_o", "(", ")", ",", ".", "data_i", "(", "data_i", "[", "in_route", "]",
    "[", "in_phys_channel", "]", ")", ",", ".", "valid_i", "(", "valid_i", "[", "in_route", "]", "[",
    "v_chan", "]", ")", ",", ".", "ready_o", "(", "ready_o", "[", "in_route", "]", "[", "v_chan", "]", ")",
    ",", ".", "data_o", "(", "in_data", "[", "in_route", "]", "[", "v_chan", "]", ")", ",", ".", "valid_o",
    "(", "in_valid", "[", "in_route", "]", "[", "v_chan", "]", ")", ",", ".", "ready_i", "(", "in_ready",
    "[", "in_route", "]", "[", "v_chan", "]", ")", ")", ";", "floo_route_select", "#", "(", ".", "NumRoutes",
    "(", "NumOutput", ")", ",", ".", "flit_t", "(", "flit_t", ")", ",", ".", "RouteAlgo", "(", "RouteAlgo",
    ")", ",", ".", "IdWidth", "(", "IdWidth", ")", ",", ".", "id_t", "(", "id_t", ")", ",", ".",
    "NumAddrRules", "(", "NumAddrRules", ")", ",", ".", "addr_rule_t", "(", "addr_rule_t", ")", ")",
    "i_route_select", "(", ".", "clk_i", ",", ".", "rst_ni", ",", ".", "test_enable_i", ",", ".", "xy_id_i",
    "(", "xy_id_i", ")", ",", ".", "id_route_map_i", "(", "id_route_map_i"
  ]

def pin_routerAll_3 : List String := [
    ")", ",", ".", "channel_i", "(", "in_data", "[", "in_route", "]", "[", "v_chan", "]", ")", ",", ".",
    "valid_i", "(", "in_valid", "[", "in_route", "]", "[", "v_chan", "]", ")", ",", ".", "ready_i", "(",
    "in_ready", "[", "in_route", "]", "[", "v_chan", "]", ")", ",", ".", "channel_o", "(", "in_routed_data",
    "[", "in_route", "]", "[", "v_chan", "]", ")", ",", ".", "route_sel_o", "(", "route_mask", "[",
    "in_route", "]", "[", "v_chan", "]", ")", ",", ".", "route_sel_id_o", "(", ")", ")", ";", "end", "end",
    "localparam", "int", "unsigned", "NumInputLimited", "=", "NoLoopback", "?", "NumInput", "-", "1", ":",
    "NumInput", ";", "logic", "[", "NumOutput", "-", "1", ":", "0", "]", "[", "NumVirtChannels", "-", "1",
    ":", "0", "]", "[", "NumInputLimited", "-", "1", ":", "0", "]", "masked_valid", ",", "masked_ready", ";",
    "logic", "[", "NumInput", "-", "1", ":", "0", "]", "[", "NumVirtChannels", "-", "1", ":", "0", "]", "[",
    "NumOutput", "-", "1", ":", "0", "]", "masked_all_ready", ";", "flit_t", "[", "NumOutput", "-", "1", ":",
    "0", "]", "[", "NumVirtChannels", "-", "1", ":", "0", "]", "[", "NumInputLimited", "-", "1", ":", "0",
    "]", "masked_data", ";", "for", "(", "genvar", "in_route", "=", "0", ";", "in_route", "<", "NumInput",
    ";", "in_route", "+", "+", ")", "begin", ":", "gen_hs_input", "for", "(", "genvar", "v_chan", "=", "0",
    ";", "v_chan", "<", "NumVirtChannels", ";", "v_chan", "+", "+", ")", "begin", ":", "gen_hs_virt", "for",
    "(", "genvar", "out_route", "=", "0", ";"
  ]

def pin_routerAll_4 : List String := [
    "out_route", "<", "NumOutput", ";", "out_route", "+", "+", ")", "begin", ":", "gen_hs_output",
    "localparam", "int", "unsigned", "ModInRoute", "=", "in_route", "<", "out_route", "&&", "NoLoopback",
    "?", "in_route", ":", "in_route", "-", "1", ";", "if", "(", "in_route", "==", "out_route", "&&",
    "NoLoopback", ")", "begin", ":", "gen_inout_identical", "assign", "masked_all_ready", "[", "in_route",
    "]", "[", "v_chan", "]", "[", "out_route", "]", "=", "'0", ";", "end", "else", "if", "(", "(",
    "RouteAlgo", "==", "XYRouting", ")", "&&", "XYRouteOpt", "&&", "(", "in_route", "==", "South", "||",
    "in_route", "==", "North", ")", "&&", "(", "out_route", "==", "East", "||", "out_route", "==", "West",
    ")", ")", "begin", ":", "gen_xy_opt", "assign", "masked_all_ready", "[", "in_route", "]", "[", "v_chan",
    "]", "[", "out_route", "]", "=", "'0", ";", "assign", "masked_valid", "[", "out_route", "]", "[",
    "v_chan", "]", "[", "ModInRoute", "]", "=", "'0", ";", "assign", "masked_data", "[", "out_route", "]",
    "[", "v_chan", "]", "[", "ModInRoute", "]", "=", "'0", ";", "end", "else", "begin", ":", "gen_default",
    "assign", "masked_all_ready", "[", "in_route", "]", "[", "v_chan", "]", "[", "out_route", "]", "=",
    "masked_ready", "[", "out_route", "]", "[", "v_chan", "]", "[", "ModInRoute", "]", ";", "assign",
    "masked_valid", "[", "out_route", "]", "[", "v_chan", "]", "[", "ModInRoute", "]", "=", "in_valid", "[",
    "in_route", "]", "[", "v_chan", "]", "&", "route_mask", "[", "in_route", "]", "[", "v_chan", "]", "[",
    "out_route", "]", ";", "assign", "masked_data", "[", "out_route", "]", "[", "v_chan", "]", "[",
    "ModInRoute", "]"
  ]

def pin_routerAll_5 : List String := [
    "=", "in_routed_data", "[", "in_route", "]", "[", "v_chan", "]", ";", "end", "end", "assign", "in_ready",
    "[", "in_route", "]", "[", "v_chan", "]", "=", "|", "(", "masked_all_ready", "[", "in_route", "]", "[",
    "v_chan", "]", "&", "route_mask", "[", "in_route", "]", "[", "v_chan", "]", ")", ";", "end", "end",
    "flit_t", "[", "NumOutput", "-", "1", ":", "0", "]", "[", "NumVirtChannels", "-", "1", ":", "0", "]",
    "out_data", ",", "out_buffered_data", ";", "logic", "[", "NumOutput", "-", "1", ":", "0", "]", "[",
    "NumVirtChannels", "-", "1", ":", "0", "]", "out_valid", ",", "out_ready", ";", "logic", "[",
    "NumOutput", "-", "1", ":", "0", "]", "[", "NumVirtChannels", "-", "1", ":", "0", "]",
    "out_buffered_valid", ",", "out_buffered_ready", ";", "for", "(", "genvar", "out_route", "=", "0", ";",
    "out_route", "<", "NumOutput", ";", "out_route", "+", "+", ")", "begin", ":", "gen_output", "for", "(",
    "genvar", "v_chan", "=", "0", ";", "v_chan", "<", "NumVirtChannels", ";", "v_chan", "+", "+", ")",
    "begin", ":", "gen_virt_output", "floo_wormhole_arbiter", "#", "(", ".", "NumRoutes", "(",
    "NumInputLimited", ")", ",", ".", "flit_t", "(", "flit_t", ")", ")", "i_wormhole_arbiter", "(", ".",
    "clk_i", ",", ".", "rst_ni", ",", ".", "valid_i", "(", "masked_valid", "[", "out_route", "]", "[",
    "v_chan", "]", ")", ",", ".", "ready_o", "(", "masked_ready", "[", "out_route", "]", "[", "v_chan", "]",
    ")", ",", ".", "data_i", "(", "masked_data", "[", "out_route", "]", "[", "v_chan", "]", ")", ",", ".",
    "valid_o", "(", "out_valid", "[", "out_route", "]"
  ]

def pin_routerAll_6 : List String := [
    "[", "v_chan", "]", ")", ",", ".", "ready_i", "(", "out_ready", "[", "out_route", "]", "[", "v_chan",
    "]", ")", ",", ".", "data_o", "(", "out_data", "[", "out_route", "]", "[", "v_chan", "]", ")", ")", ";",
    "if", "(", "OutFifoDepth", ">", "0", ")", "begin", ":", "gen_out_fifo", "(", "*", "ungroup", "*", ")",
    "stream_fifo_optimal_wrap", "#", "(", ".", "Depth", "(", "OutFifoDepth", ")", ",", ".", "type_t", "(",
    "flit_t", ")", ")", "i_stream_fifo", "(", ".", "clk_i", "(", "clk_i", ")", ",", ".", "rst_ni", "(",
    "rst_ni", ")", ",", ".", "testmode_i", "(", "test_enable_i", ")", ",", ".", "flush_i", "(", "1'b0", ")",
    ",", ".", "usage_o", "(", ")", ",", ".", "data_i", "(", "out_data", "[", "out_route", "]", "[", "v_chan",
    "]", ")", ",", ".", "valid_i", "(", "out_valid", "[", "out_route", "]", "[", "v_chan", "]", ")", ",",
    ".", "ready_o", "(", "out_ready", "[", "out_route", "]", "[", "v_chan", "]", ")", ",", ".", "data_o",
    "(", "out_buffered_data", "[", "out_route", "]", "[", "v_chan", "]", ")", ",", ".", "valid_o", "(",
    "out_buffered_valid", "[", "out_route", "]", "[", "v_chan", "]", ")", ",", ".", "ready_i", "(",
    "out_buffered_ready", "[", "out_route", "]", "[", "v_chan", "]", ")", ")", ";", "end", "else", "begin",
    ":", "gen_no_out_fifo", "assign", "out_buffered_data", "[", "out_route", "]", "[", "v_chan", "]", "=",
    "out_data", "[", "out_route", "]", "[", "v_chan", "]", ";", "assign", "out_buffered_valid", "[",
    "out_route", "]", "[", "v_chan", "]", "=", "out_valid", "[", "out_route", "]", "[", "v_chan"
  ]

def pin_routerAll_7 : List String := [
    "]", ";", "assign", "out_ready", "[", "out_route", "]", "[", "v_chan", "]", "=", "out_buffered_ready",
    "[", "out_route", "]", "[", "v_chan", "]", ";", "end", "end", "floo_vc_arbiter", "#", "(", ".",
    "NumVirtChannels", "(", "NumVirtChannels", ")", ",", ".", "flit_t", "(", "flit_t", ")", ",", ".",
    "NumPhysChannels", "(", "NumPhysChannels", ")", ")", "i_vc_arbiter", "(", ".", "clk_i", ",", ".",
    "rst_ni", ",", ".", "valid_i", "(", "out_buffered_valid", "[", "out_route", "]", ")", ",", ".",
    "ready_o", "(", "out_buffered_ready", "[", "out_route", "]", ")", ",", ".", "data_i", "(",
    "out_buffered_data", "[", "out_route", "]", ")", ",", ".", "ready_i", "(", "ready_i", "[", "out_route",
    "]", ")", ",", ".", "valid_o", "(", "valid_o", "[", "out_route", "]", ")", ",", ".", "data_o", "(",
    "data_o", "[", "out_route", "]", ")", ")", ";", "end", "for", "(", "genvar", "i", "=", "0", ";", "i",
    "<", "NumInput", ";", "i", "+", "+", ")", "begin", ":", "gen_input_assert", "for", "(", "genvar", "v",
    "=", "0", ";", "v", "<", "NumVirtChannels", ";", "v", "+", "+", ")", "begin", ":", "gen_virt_assert",
    "`ASSERT", "(", "StableValidIn", ",", "valid_i", "[", "i", "]", "[", "v", "]", "&&", "!", "ready_o", "[",
    "i", "]", "[", "v", "]", "|", "=", ">", "$stable", "(", "valid_i", "[", "i", "]", "[", "v", "]", ")",
    ")", "end", "end", "for", "(", "genvar", "o", "=", "0", ";", "o", "<", "NumOutput", ";", "o", "+", "+",
    ")", "begin", ":", "gen_output_assert", "for", "(", "genvar", "v"
  ]

def pin_routerAll_8 : List String := [
    "=", "0", ";", "v", "<", "NumVirtChannels", ";", "v", "+", "+", ")", "begin", ":", "gen_virt_assert",
    "`ASSERT", "(", "StableValidOut", ",", "valid_o", "[", "o", "]", "[", "v", "]", "&&", "!", "ready_i",
    "[", "o", "]", "[", "v", "]", "|", "=", ">", "$stable", "(", "valid_o", "[", "o", "]", "[", "v", "]",
    ")", ")", "end", "end", "if", "(", "(", "RouteAlgo", "==", "XYRouting", ")", "&&", "XYRouteOpt", ")",
    "begin", ":", "gen_xy_opt_assert", "for", "(", "genvar", "v", "=", "0", ";", "v", "<", "NumVirtChannels",
    ";", "v", "+", "+", ")", "begin", ":", "gen_virt", "`ASSERT", "(", "XYDirectionNotAllowed", ",", "!",
    "(", "in_valid", "[", "South", "]", "[", "v", "]", "&&", "route_mask", "[", "South", "]", "[", "v", "]",
    "[", "East", "]", ")", "&&", "!", "(", "in_valid", "[", "South", "]", "[", "v", "]", "&&", "route_mask",
    "[", "South", "]", "[", "v", "]", "[", "West", "]", ")", "&&", "!", "(", "in_valid", "[", "North", "]",
    "[", "v", "]", "&&", "route_mask", "[", "North", "]", "[", "v", "]", "[", "East", "]", ")", "&&", "!",
    "(", "in_valid", "[", "North", "]", "[", "v", "]", "&&", "route_mask", "[", "North", "]", "[", "v", "]",
    "[", "West", "]", ")", ")", "end", "end", "endmodule"
  ]

def pin_routerAll : List String := pin_routerAll_0 ++ pin_routerAll_1 ++ pin_routerAll_2 ++ pin_routerAll_3 ++ pin_routerAll_4 ++ pin_routerAll_5 ++ pin_routerAll_6 ++ pin_routerAll_7 ++ pin_routerAll_8


/-- the tokens of this part of the working tree's RTL are the pinned ones -/
theorem routerAll_pinned : rtlFacts.routerAll = pin_routerAll := rfl

def pin_compAll_0 : List String := [
    "`include", "\"common_cells/assertions.svh\"", "module", "floo_route_comp", "import", "floo_pkg", "::",
    "*", ";", "#", "(", "parameter", "floo_pkg", "::", "route_cfg_t", "RouteCfg", "=", "'0", ",",
    "parameter", "bit", "UseIdTable", "=", "RouteCfg", ".", "UseIdTable", ",", "parameter", "type", "id_t",
    "=", "logic", ",", "parameter", "type", "addr_t", "=", "logic", ",", "parameter", "type", "route_t", "=",
    "logic", ",", "parameter", "type", "addr_rule_t", "=", "logic", ")", "(", "input", "logic", "clk_i", ",",
    "input", "logic", "rst_ni", ",", "input", "id_t", "id_i", ",", "input", "addr_t", "addr_i", ",", "input",
    "addr_rule_t", "[", "RouteCfg", ".", "NumSamRules", "-", "1", ":", "0", "]", "addr_map_i", ",", "input",
    "route_t", "[", "RouteCfg", ".", "NumRoutes", "-", "1", ":", "0", "]", "route_table_i", ",", "output",
    "route_t", "route_o", ",", "output", "id_t", "id_o", ")", ";", "if", "(", "UseIdTable", "&&", "(", "(",
    "RouteCfg", ".", "RouteAlgo", "==", "IdTable", ")", "||", "(", "RouteCfg", ".", "RouteAlgo", "==",
    "XYRouting", ")", "||", "(", "RouteCfg", ".", "RouteAlgo", "==", "SourceRouting", ")", ")", ")", "begin",
    ":", "gen_table_routing", "logic", "dec_error", ";", "localparam", "int", "unsigned", "MaxPossibleId",
    "=", "1", "<<", "$bits", "(", "id_o", ")", ";", "addr_decode", "#", "(", ".", "NoIndices", "(",
    "MaxPossibleId", ")", ",", ".", "NoRules", "(", "RouteCfg", ".", "NumSamRules", ")", ",", ".", "addr_t",
    "(", "addr_t", ")", ",", ".", "rule_t", "(", "addr_rule_t", ")", ",", ".", "idx_t", "(", "id_t", ")",
    ")", "i_addr_dst_decode", "(", ".", "addr_i", "(", "addr_i", ")", ",", ".", "addr_map_i", "(",
    "addr_map_i", ")", ","
  ]

def pin_compAll_1 : List String := [
    ".", "idx_o", "(", "id_o", ")", ",", ".", "dec_valid_o", "(", ")", ",", ".", "dec_error_o", "(",
    "dec_error", ")", ",", ".", "en_default_idx_i", "(", "1'b0", ")", ",", ".", "default_idx_i", "(", "'0",
    ")", ")", ";", "`ASSERT", "(", "DecodeError", ",", "!", "dec_error", ")", "end", "else", "if", "(",
    "RouteCfg", ".", "RouteAlgo", "==", "XYRouting", ")", "begin", ":", "gen_xy_bits_routing", "assign",
    "id_o", ".", "port_id", "=", "'0", ";", "assign", "id_o", ".", "x", "=", "addr_i", "[", "RouteCfg", ".",
    "XYAddrOffsetX", "+", ":", "$bits", "(", "id_o", ".", "x", ")", "]", ";", "assign", "id_o", ".", "y",
    "=", "addr_i", "[", "RouteCfg", ".", "XYAddrOffsetY", "+", ":", "$bits", "(", "id_o", ".", "y", ")", "]",
    ";", "end", "else", "if", "(", "RouteCfg", ".", "RouteAlgo", "==", "IdTable", ")", "begin", ":",
    "gen_id_bits_routing", "assign", "id_o", "=", "addr_i", "[", "RouteCfg", ".", "IdAddrOffset", "+", ":",
    "$bits", "(", "id_o", ")", "]", ";", "end", "else", "if", "(", "RouteCfg", ".", "RouteAlgo", "==",
    "SourceRouting", ")", "begin", ":", "gen_source_routing", "end", "else", "begin", ":", "gen_error",
    "$fatal", "(", "1", ",", "\"Routing algorithm not implemented\"", ")", ";", "end", "if", "(", "RouteCfg",
    ".", "RouteAlgo", "==", "SourceRouting", ")", "begin", ":", "gen_route", "assign", "route_o", "=", "(",
    "UseIdTable", ")", "?", "route_table_i", "[", "id_o", "]", ":", "route_table_i", "[", "id_i", "]", ";",
    "end", "else", "begin", ":", "gen_no_route", "assign", "route_o", "=", "'0", ";", "end", "endmodule"
  ]

def pin_compAll : List String := pin_compAll_0 ++ pin_compAll_1


/-- the tokens of this part of the working tree's RTL are the pinned ones -/
theorem compAll_pinned : rtlFacts.compAll = pin_compAll := rfl

end FlooVerif.HwTie
