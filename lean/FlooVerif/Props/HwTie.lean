/-
  The tie between the hand-written hardware semantics (Hw.lean) and the RTL it was read from: the decision
  blocks of hw/floo_route_select.sv, regenerated as trees on every run (Gen/RtlFacts.lean), compute exactly
  `Hw.xyDecide` and `Hw.srcPop`, for all inputs; the remaining fragments (ID-table branch, the instantiation
  and route masking in floo_router, the look-ups of floo_route_comp) are the token sequences Hw.lean was
  written against.  A change of that RTL breaks one of these theorems.
-/
import FlooVerif.Gen.RtlFacts
import FlooVerif.Hw
namespace FlooVerif.HwTie
open FlooVerif Rtl Hw Gen

/-- what the names of the XY branch stand for: destination (`id_in`), own coordinate (`xy_id_i`), destination
    port, and the members of `route_direction_e` -/
def envXY (cx cy dx dy : Int) (port : Nat) : Env XyName
  | .id_in_x => some dx | .id_in_y => some dy
  | .xy_id_i_x => some cx | .xy_id_i_y => some cy
  | .channel_i_hdr_dst_id_port_id => some port
  | .North => some North | .East => some East | .South => some South | .West => some West | .Eject => some Eject
  | .route_sel_id => none | .route_sel => none

/-- **floo_route_select, XY branch = `Hw.xyDecide`**, for every own coordinate, destination and port -/
theorem xy_agrees (cx cy dx dy : Int) (port : Nat) :
    execList (envXY cx cy dx dy port) rtlXy .route_sel_id = some ((xyDecide cx cy dx dy port : Nat) : Int) := by
  simp only [rtlXy, execList, exec, eval, evalOp, xyDecide]
  simp [Env.set_ne, envXY]
  -- what is left are the block's nest of `if`s and `xyDecide`'s, over the same conditions
  split
  · simp [*]
  · split <;> split <;> simp [*]

end FlooVerif.HwTie
